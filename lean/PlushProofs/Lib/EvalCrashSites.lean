import PlushProofs.Lib.EvalWalk
import PlushProofs.Lib.ParserTotalProof
/-!
  C04, evaluator-wide: the evaluator model reaches a crash site (a Go panic) only at one of the three
  `nilChildSites`, each a dereference of a missing AST child — never in operator dispatch, indexing, calls,
  argument binding, loops, helpers, partials or the output sink. (`Lib/ParserWF.lean`: a program parsed without
  errors has no missing child.)
-/
namespace Plush
open EM

def CrashOnly {α} (m : EM α) : Prop := ∀ s site, (m s).1 = .fatal (.crash site) → site ∈ nilChildSites

/-- `CrashOnly` is the case `C := (· ∈ nilChildSites)`, `NoCrash` of Props/C04 the case `C := fun _ => False` -/
def CrashIn (C : String → Prop) {α} (m : EM α) : Prop := ∀ s site, (m s).1 = .fatal (.crash site) → C site

theorem memberStep_no_crash (c : Val) (name : Bytes) (site : String) : memberStep c name ≠ .fatal (.crash site) := by
  unfold memberStep
  repeat (any_goals (first | split | (intro h; cases h; done) | dsimp only))

theorem crashIn_closed (C : String → Prop) : EM.Closed (@CrashIn C) where
  pure _ _ _ h := nomatch h
  bind {_ _ m f} hm hf := by
    intro s site
    have h1 := hm s site
    rcases hms : m s with ⟨_ | _ | x, s'⟩ <;> rw [hms] at h1
    · rw [bind_ok hms]; exact hf _ s' site
    · rw [bind_err hms]; exact fun h => nomatch h
    · rw [bind_fatal hms]; exact fun h => h1 (by cases h; rfl)
  attempt {_ m} hm := by
    intro s site
    have h1 := hm s site
    rcases hms : m s with ⟨_ | _ | x, s'⟩ <;> rw [hms] at h1
    · rw [attempt_ok hms]; exact fun h => nomatch h
    · rw [attempt_err hms]; exact fun h => nomatch h
    · rw [attempt_fatal hms]; exact fun h => h1 (by cases h; rfl)
  throwErr _ _ _ h := nomatch h
  outOfFuel _ _ h := nomatch h
  unsupported _ _ _ h := nomatch h
  getS _ _ h := nomatch h
  setCurStmt _ _ _ h := nomatch h
  tick _ _ h := nomatch h
  heapSet _ _ _ _ h := nomatch h
  traceEv _ _ _ h := nomatch h
  ctxSet _ _ _ _ h := nomatch h
  ctxSetIn _ _ _ _ _ h := nomatch h
  ctxNewChild o s _ h := by rw [ctxNewChild_run] at h; cases h
  copyFrame _ _ _ _ h := nomatch h
  allocSlice _ _ _ h := nomatch h
  allocMap _ _ _ h := nomatch h
  memberOf c name _ site h := absurd h (memberStep_no_crash c name site)
  withCtx c m hm := by
    intro s site
    have h1 := hm { s with cur := c } site
    rw [withCtx_run]
    generalize m { s with cur := c } = r at h1 ⊢
    rcases r with ⟨_ | _ | _, _⟩
    · exact fun h => nomatch h
    · exact fun h => nomatch h
    · exact h1

theorem crashOnly_closed : EM.Closed @CrashOnly := crashIn_closed (· ∈ nilChildSites)

structure AllCO (n : Nat) : Prop where
  evalExpr : ∀ (a : Option Expr), CrashOnly (evalExpr n a)
  evalExprs : ∀ (a : List (Option Expr)), CrashOnly (evalExprs n a)
  evalHashPairs : ∀ (a : List (Option Expr × Option Expr)) (b : List (Val × Val)), CrashOnly (evalHashPairs n a b)
  evalIdent : ∀ (a : Ident), CrashOnly (evalIdent n a)
  evalInfix : ∀ (a : Bytes) (b : Option Expr) (c : Option Expr), CrashOnly (evalInfix n a b c)
  evalIf : ∀ (a : Option Expr) (b : Block) (c : List (Token × Option Expr × Block)) (d : Option Block), CrashOnly (evalIf n a b c d)
  evalElifs : ∀ (a : List (Token × Option Expr × Block)) (b : Option Block), CrashOnly (evalElifs n a b)
  evalBlock : ∀ (a : Block), CrashOnly (evalBlock n a)
  evalStmts : ∀ (a : List Stmt) (b : List Val), CrashOnly (evalStmts n a b)
  evalStmt : ∀ (a : Stmt), CrashOnly (evalStmt n a)
  evalStmtBody : ∀ (a : Stmt), CrashOnly (evalStmtBody n a)
  evalFor : ∀ (a : Bytes) (b : Bytes) (c : Option Expr) (d : Option Block), CrashOnly (evalFor n a b c d)
  forBody : ∀ (a : Bytes) (b : Bytes) (c : Option Expr) (d : Option Block), CrashOnly (forBody n a b c d)
  forItems : ∀ (a : Bytes) (b : Bytes) (c : Block) (d : List (Val × Val)) (e : List Val), CrashOnly (forItems n a b c d e)
  forRanger : ∀ (a : Bytes) (b : Bytes) (c : Block) (d : Gen.Ranger) (e : Nat) (f : List Val), CrashOnly (forRanger n a b c d e f)
  evalIndex : ∀ (a : Option Expr) (b : Option Expr) (c : Option Expr) (d : Option Expr), CrashOnly (evalIndex n a b c d)
  evalUserFn : ∀ (a : List Ident) (b : Block) (c : List (Option Expr)), CrashOnly (evalUserFn n a b c)
  fnBody : ∀ (a : List Ident) (b : List Val) (c : Block), CrashOnly (fnBody n a b c)
  evalCall : ∀ (a : Option Expr) (b : Option Expr) (c : Expr) (d : Option (List (Option Expr))) (e : Option Block), CrashOnly (evalCall n a b c d e)
  bindArgs : ∀ (a : String) (b : Sig) (c : List (Option Expr)) (d : Option Block), CrashOnly (bindArgs n a b c d)
  bindFixed : ∀ (a : Option Block) (b : List (Option Expr × Ty)) (c : List Val), CrashOnly (bindFixed n a b c)
  bindVariadic : ∀ (a : Ty) (b : List (Option Expr)) (c : List Val), CrashOnly (bindVariadic n a b c)
  blockWith : ∀ (a : Option Block) (b : Nat), CrashOnly (blockWith n a b)
  callHelper : ∀ (a : String) (b : List Val), CrashOnly (callHelper n a b)
  partialHelper : ∀ (a : Bytes) (b : List (Val × Val)) (c : Nat), CrashOnly (partialHelper n a b c)
  renderIn : ∀ (a : Bytes) (b : Nat), CrashOnly (renderIn n a b)
  compileStmts : ∀ (a : List Stmt) (b : Bytes), CrashOnly (compileStmts n a b)

theorem allCO (n : Nat) : AllCO n :=
  -- the parser never fails (Theorem B), so a nested `Render` hands on no crash of the parser
  have h := crashOnly_closed.all (fun _ h _ _ e => by cases e; exact h)
    (fun {_ src _} hp => by obtain ⟨r, hr⟩ := parseBytes_total src; rw [hr] at hp; cases hp) n
  ⟨h.evalExpr, h.evalExprs, h.evalHashPairs, h.evalIdent, h.evalInfix, h.evalIf, h.evalElifs, h.evalBlock, h.evalStmts,
   h.evalStmt, h.evalStmtBody, h.evalFor, h.forBody, h.forItems, h.forRanger, h.evalIndex, h.evalUserFn, h.fnBody,
   h.evalCall, h.bindArgs, h.bindFixed, h.bindVariadic, h.blockWith, h.callHelper, h.partialHelper, h.renderIn, h.compileStmts⟩

end Plush
