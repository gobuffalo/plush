import PlushProofs.Lib.ParserErrLines
import PlushProofs.Lib.EvalRun
/-!
  C15, evaluator side: an error that leaves `compile` — and hence one that leaves `Render`, the nested `Render` of
  a partial's template included — carries a line number. (The partial helper's own errors, `no-partial-feeder` and
  `feeder-failed`, have none until the enclosing `compile` stamps them.) Nothing is needed about the 27 evaluator
  functions: `compile` runs each statement under `attempt` and stamps whatever error comes back; the only other
  source of an error is the parser, whose errors all carry lines (`parse_errors_have_lines`).
-/
namespace Plush
open EM

def ErrsLined {α} (m : EM α) : Prop := ∀ s e s', m s = (.err e, s') → e.line.isSome = true

theorem el_pure {α} (a : α) : ErrsLined (Pure.pure a : EM α) := by intro s e s' h; cases h
theorem el_fatal {α} (f : Fatal) : ErrsLined (EM.fatal f : EM α) := by intro s e s' h; cases h
theorem el_getS : ErrsLined EM.getS := by intro s e s' h; cases h
theorem el_modifyS (f : ES → ES) : ErrsLined (EM.modifyS f) := by intro s e s' h; cases h
theorem el_throw {α} (e : Err) (h : e.line.isSome = true) : ErrsLined (EM.throwErr e : EM α) := by
  intro s e' s' h'; cases h'; exact h

theorem el_attempt {α} (m : EM α) : ErrsLined (EM.attempt m) := by
  intro s e s' h
  rcases hm : m s with ⟨_ | _ | _, s1⟩
  · rw [attempt_ok hm] at h; cases h
  · rw [attempt_err hm] at h; cases h
  · rw [attempt_fatal hm] at h; cases h

theorem el_bind_dep {α β} {m : EM α} {f : α → EM β} (P : α → Prop) (hm : ErrsLined m)
    (hp : ∀ s a s', m s = (.ok a, s') → P a) (hf : ∀ a, P a → ErrsLined (f a)) : ErrsLined (m >>= f) := by
  intro s e s' h
  rcases hms : m s with ⟨a | e1 | x, s1⟩
  · rw [bind_ok hms] at h; exact hf a (hp s a s1 hms) s1 e s' h
  · rw [bind_err hms] at h; cases h; exact hm s e s' hms
  · rw [bind_fatal hms] at h; cases h

theorem el_bind {α β} {m : EM α} {f : α → EM β} (hm : ErrsLined m) (hf : ∀ a, ErrsLined (f a)) :
    ErrsLined (m >>= f) :=
  el_bind_dep (fun _ => True) hm (fun _ _ _ _ => trivial) fun a _ => hf a

theorem el_renderVal (v : Val) : ErrsLined (renderVal v) := by
  unfold renderVal
  refine el_bind el_getS (fun s => ?_)
  split
  · exact el_pure _
  · exact el_fatal _

theorem compileStmts_errors_lined : ∀ (fuel : Nat) (stmts : List Stmt) (out : Bytes), ErrsLined (compileStmts fuel stmts out) := by
  intro fuel
  induction fuel with
  | zero => intro stmts out; unfold compileStmts; exact el_fatal _
  | succ n ih =>
    intro stmts out
    cases stmts with
    | nil => unfold compileStmts; exact el_pure _
    | cons st rest =>
      unfold compileStmts
      refine el_bind (el_modifyS _) (fun _ => ?_)
      refine el_bind (el_attempt _) (fun r => ?_)
      cases r with
      | error e =>
        -- `{ e with line := some line, … }`: lined whatever `e` was
        refine el_bind el_getS (fun s => ?_)
        exact el_throw _ rfl
      | ok v =>
        refine el_bind (el_renderVal v) (fun bs => ?_)
        exact ih rest _

theorem el_getCur : ErrsLined getCur := el_bind el_getS (fun _ => el_pure _)

def OkErrLined {α} (m : EM (Except Err α)) : Prop := ∀ s e s', m s = (.ok (.error e), s') → e.line.isSome = true

theorem okerr_attempt {α} {m : EM α} (h : ErrsLined m) : OkErrLined (EM.attempt m) :=
  fun s e s' hh => h s e s' (err_of_attempt hh)

theorem renderIn_errors_lined (fuel : Nat) (src : Bytes) (ctx : Nat) : ErrsLined (renderIn fuel src ctx) := by
  cases fuel with
  | zero => unfold renderIn; exact el_fatal _
  | succ n =>
    unfold renderIn
    split
    · exact el_fatal _
    · exact el_fatal _
    · exact el_fatal _
    · rename_i prog errs hp
      split
      · rename_i hne
        -- a syntax error: the first of the parser's errors is reported, and each of them carries a line
        apply el_throw
        cases hq : errs[0]? with
        | none => simp [Array.isEmpty, Nat.le_zero.mp (Array.getElem?_eq_none_iff.mp hq)] at hne
        | some e0 =>
          simpa using parse_errors_have_lines src prog errs hp e0 (Array.mem_def.mp (Array.mem_of_getElem? hq))
      · refine el_bind el_getCur (fun octx => ?_)
        refine el_bind el_getS (fun s0 => ?_)
        refine el_bind (el_modifyS _) (fun _ => ?_)
        refine el_bind (el_modifyS _) (fun _ => ?_)
        -- an error value that `attempt` hands on is an error of `compile`, hence lined; it is re-thrown below
        refine el_bind_dep (fun r => ∀ e, r = .error e → e.line.isSome = true) (el_attempt _)
          (fun s a s' h e he => okerr_attempt (compileStmts_errors_lined n _ _) s e s' (he ▸ h)) fun r hr => ?_
        refine el_bind (el_modifyS _) (fun _ => ?_)
        refine el_bind (el_modifyS _) (fun _ => ?_)
        cases r with
        | ok out => exact el_pure _
        | error e => exact el_throw _ (hr e rfl)

end Plush
