import PlushProofs.Lib.EvalWalk
/-!
  C09, evaluator-wide: evaluating any expression, statement, block, loop, call, helper or partial leaves the
  current context (`c.ctx`) what it was — on success and on error.
-/
namespace Plush
open EM

/-- by cases, so that it reduces on a known outcome; `settled` of Props/C09 says the same as a negation -/
def settledR {α} : R α → Prop
  | .fatal _ => False
  | _ => True

/-- Fatal outcomes are left out: `withCtx` hands them on without switching back (`withCtx_run`). -/
def KeepsCur {α} (m : EM α) : Prop := ∀ s, settledR (m s).1 → (m s).2.cur = s.cur

theorem kc_withCtx {α} (c : Nat) (m : EM α) : KeepsCur (withCtx c m) := by
  intro s hs
  rw [withCtx_run] at hs ⊢
  generalize m { s with cur := c } = r at hs ⊢
  rcases r with ⟨_ | _ | _, _⟩
  · rfl
  · rfl
  · exact hs.elim

theorem keepsCur_closed : Closed @KeepsCur where
  pure _ _ _ := rfl
  bind {_ _ m f} hm hf := by
    intro s hs
    have h1 := hm s
    rcases hms : m s with ⟨_ | _ | _, s'⟩ <;> rw [hms] at h1
    · rw [bind_ok hms] at hs ⊢
      exact (hf _ s' hs).trans (h1 trivial)
    · rw [bind_err hms]; exact h1 trivial
    · rw [bind_fatal hms] at hs; exact hs.elim
  attempt {_ m} hm := by
    intro s hs
    have h1 := hm s
    rcases hms : m s with ⟨_ | _ | _, s'⟩ <;> rw [hms] at h1
    · rw [attempt_ok hms]; exact h1 trivial
    · rw [attempt_err hms]; exact h1 trivial
    · rw [attempt_fatal hms] at hs; exact hs.elim
  throwErr _ _ _ := rfl
  outOfFuel _ h := h.elim
  unsupported _ _ h := h.elim
  getS _ _ := rfl
  setCurStmt _ _ _ := rfl
  tick _ _ := rfl
  heapSet _ _ _ _ := rfl
  traceEv _ _ _ := rfl
  ctxSet _ _ _ _ := rfl
  ctxSetIn _ _ _ _ _ := rfl
  ctxNewChild o s _ := by rw [ctxNewChild_run]
  copyFrame _ _ s _ := by unfold copyFrame modifyS; dsimp only; split <;> rfl
  allocSlice _ _ _ := rfl
  allocMap _ _ _ := rfl
  memberOf _ _ _ _ := rfl
  withCtx c m _ := kc_withCtx c m

structure AllCur (n : Nat) : Prop where
  evalExpr : ∀ (a : Option Expr), KeepsCur (evalExpr n a)
  evalExprs : ∀ (a : List (Option Expr)), KeepsCur (evalExprs n a)
  evalHashPairs : ∀ (a : List (Option Expr × Option Expr)) (b : List (Val × Val)), KeepsCur (evalHashPairs n a b)
  evalIdent : ∀ (a : Ident), KeepsCur (evalIdent n a)
  evalInfix : ∀ (a : Bytes) (b : Option Expr) (c : Option Expr), KeepsCur (evalInfix n a b c)
  evalIf : ∀ (a : Option Expr) (b : Block) (c : List (Token × Option Expr × Block)) (d : Option Block), KeepsCur (evalIf n a b c d)
  evalElifs : ∀ (a : List (Token × Option Expr × Block)) (b : Option Block), KeepsCur (evalElifs n a b)
  evalBlock : ∀ (a : Block), KeepsCur (evalBlock n a)
  evalStmts : ∀ (a : List Stmt) (b : List Val), KeepsCur (evalStmts n a b)
  evalStmt : ∀ (a : Stmt), KeepsCur (evalStmt n a)
  evalStmtBody : ∀ (a : Stmt), KeepsCur (evalStmtBody n a)
  evalFor : ∀ (a : Bytes) (b : Bytes) (c : Option Expr) (d : Option Block), KeepsCur (evalFor n a b c d)
  forBody : ∀ (a : Bytes) (b : Bytes) (c : Option Expr) (d : Option Block), KeepsCur (forBody n a b c d)
  forItems : ∀ (a : Bytes) (b : Bytes) (c : Block) (d : List (Val × Val)) (e : List Val), KeepsCur (forItems n a b c d e)
  forRanger : ∀ (a : Bytes) (b : Bytes) (c : Block) (d : Gen.Ranger) (e : Nat) (f : List Val), KeepsCur (forRanger n a b c d e f)
  evalIndex : ∀ (a : Option Expr) (b : Option Expr) (c : Option Expr) (d : Option Expr), KeepsCur (evalIndex n a b c d)
  evalUserFn : ∀ (a : List Ident) (b : Block) (c : List (Option Expr)), KeepsCur (evalUserFn n a b c)
  fnBody : ∀ (a : List Ident) (b : List Val) (c : Block), KeepsCur (fnBody n a b c)
  evalCall : ∀ (a : Option Expr) (b : Option Expr) (c : Expr) (d : Option (List (Option Expr))) (e : Option Block), KeepsCur (evalCall n a b c d e)
  bindArgs : ∀ (a : String) (b : Sig) (c : List (Option Expr)) (d : Option Block), KeepsCur (bindArgs n a b c d)
  bindFixed : ∀ (a : Option Block) (b : List (Option Expr × Ty)) (c : List Val), KeepsCur (bindFixed n a b c)
  bindVariadic : ∀ (a : Ty) (b : List (Option Expr)) (c : List Val), KeepsCur (bindVariadic n a b c)
  blockWith : ∀ (a : Option Block) (b : Nat), KeepsCur (blockWith n a b)
  callHelper : ∀ (a : String) (b : List Val), KeepsCur (callHelper n a b)
  partialHelper : ∀ (a : Bytes) (b : List (Val × Val)) (c : Nat), KeepsCur (partialHelper n a b c)
  renderIn : ∀ (a : Bytes) (b : Nat), KeepsCur (renderIn n a b)
  compileStmts : ∀ (a : List Stmt) (b : Bytes), KeepsCur (compileStmts n a b)

theorem allCur (n : Nat) : AllCur n :=
  have h := keepsCur_closed.all (fun _ _ _ h => h.elim) (fun _ _ _ h => h.elim) n
  ⟨h.evalExpr, h.evalExprs, h.evalHashPairs, h.evalIdent, h.evalInfix, h.evalIf, h.evalElifs, h.evalBlock, h.evalStmts,
   h.evalStmt, h.evalStmtBody, h.evalFor, h.forBody, h.forItems, h.forRanger, h.evalIndex, h.evalUserFn, h.fnBody,
   h.evalCall, h.bindArgs, h.bindFixed, h.bindVariadic, h.blockWith, h.callHelper, h.partialHelper, h.renderIn, h.compileStmts⟩

end Plush
