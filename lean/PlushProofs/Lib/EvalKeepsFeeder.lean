import PlushProofs.Lib.EvalWalk
/-!
  C13, evaluator-wide: evaluation never modifies the template sources it renders from (`ES.feeder`, the partial
  feeder — the model's stand-in for the templates a render can reach), on success, on error and on a fatal outcome.
-/
namespace Plush
open EM

structure KeepsFeeder {α} (m : EM α) : Prop where
  same : ∀ s : ES, (m s).2.feeder = s.feeder

theorem keepsFeeder_closed : Closed @KeepsFeeder where
  pure _ := ⟨fun _ => rfl⟩
  bind hm hf := ⟨bind_rel (fun s s' => s'.feeder = s.feeder) (fun h1 h2 => h2.trans h1) hm.same fun a => (hf a).same⟩
  attempt hm := ⟨attempt_rel (fun s s' => s'.feeder = s.feeder) hm.same⟩
  throwErr _ := ⟨fun _ => rfl⟩
  outOfFuel := ⟨fun _ => rfl⟩
  unsupported _ := ⟨fun _ => rfl⟩
  getS := ⟨fun _ => rfl⟩
  setCurStmt _ := ⟨fun _ => rfl⟩
  tick := ⟨fun _ => rfl⟩
  heapSet _ _ := ⟨fun _ => rfl⟩
  traceEv _ := ⟨fun _ => rfl⟩
  ctxSet _ _ := ⟨fun _ => rfl⟩
  ctxSetIn _ _ _ := ⟨fun _ => rfl⟩
  ctxNewChild o := ⟨fun s => by rw [ctxNewChild_run]⟩
  copyFrame _ _ := ⟨fun s => by unfold copyFrame modifyS; dsimp only; split <;> rfl⟩
  allocSlice _ := ⟨fun _ => rfl⟩
  allocMap _ := ⟨fun _ => rfl⟩
  memberOf _ _ := ⟨fun _ => rfl⟩
  withCtx c _ hm := ⟨withCtx_rel (fun s s' => s'.feeder = s.feeder) (fun _ h => h) (fun _ h => h) hm.same c⟩

structure AllKF (n : Nat) : Prop where
  evalExpr : ∀ (a : Option Expr), KeepsFeeder (evalExpr n a)
  evalExprs : ∀ (a : List (Option Expr)), KeepsFeeder (evalExprs n a)
  evalHashPairs : ∀ (a : List (Option Expr × Option Expr)) (b : List (Val × Val)), KeepsFeeder (evalHashPairs n a b)
  evalIdent : ∀ (a : Ident), KeepsFeeder (evalIdent n a)
  evalInfix : ∀ (a : Bytes) (b : Option Expr) (c : Option Expr), KeepsFeeder (evalInfix n a b c)
  evalIf : ∀ (a : Option Expr) (b : Block) (c : List (Token × Option Expr × Block)) (d : Option Block), KeepsFeeder (evalIf n a b c d)
  evalElifs : ∀ (a : List (Token × Option Expr × Block)) (b : Option Block), KeepsFeeder (evalElifs n a b)
  evalBlock : ∀ (a : Block), KeepsFeeder (evalBlock n a)
  evalStmts : ∀ (a : List Stmt) (b : List Val), KeepsFeeder (evalStmts n a b)
  evalStmt : ∀ (a : Stmt), KeepsFeeder (evalStmt n a)
  evalStmtBody : ∀ (a : Stmt), KeepsFeeder (evalStmtBody n a)
  evalFor : ∀ (a : Bytes) (b : Bytes) (c : Option Expr) (d : Option Block), KeepsFeeder (evalFor n a b c d)
  forBody : ∀ (a : Bytes) (b : Bytes) (c : Option Expr) (d : Option Block), KeepsFeeder (forBody n a b c d)
  forItems : ∀ (a : Bytes) (b : Bytes) (c : Block) (d : List (Val × Val)) (e : List Val), KeepsFeeder (forItems n a b c d e)
  forRanger : ∀ (a : Bytes) (b : Bytes) (c : Block) (d : Gen.Ranger) (e : Nat) (f : List Val), KeepsFeeder (forRanger n a b c d e f)
  evalIndex : ∀ (a : Option Expr) (b : Option Expr) (c : Option Expr) (d : Option Expr), KeepsFeeder (evalIndex n a b c d)
  evalUserFn : ∀ (a : List Ident) (b : Block) (c : List (Option Expr)), KeepsFeeder (evalUserFn n a b c)
  fnBody : ∀ (a : List Ident) (b : List Val) (c : Block), KeepsFeeder (fnBody n a b c)
  evalCall : ∀ (a : Option Expr) (b : Option Expr) (c : Expr) (d : Option (List (Option Expr))) (e : Option Block), KeepsFeeder (evalCall n a b c d e)
  bindArgs : ∀ (a : String) (b : Sig) (c : List (Option Expr)) (d : Option Block), KeepsFeeder (bindArgs n a b c d)
  bindFixed : ∀ (a : Option Block) (b : List (Option Expr × Ty)) (c : List Val), KeepsFeeder (bindFixed n a b c)
  bindVariadic : ∀ (a : Ty) (b : List (Option Expr)) (c : List Val), KeepsFeeder (bindVariadic n a b c)
  blockWith : ∀ (a : Option Block) (b : Nat), KeepsFeeder (blockWith n a b)
  callHelper : ∀ (a : String) (b : List Val), KeepsFeeder (callHelper n a b)
  partialHelper : ∀ (a : Bytes) (b : List (Val × Val)) (c : Nat), KeepsFeeder (partialHelper n a b c)
  renderIn : ∀ (a : Bytes) (b : Nat), KeepsFeeder (renderIn n a b)
  compileStmts : ∀ (a : List Stmt) (b : Bytes), KeepsFeeder (compileStmts n a b)

theorem allKF (n : Nat) : AllKF n :=
  have h := keepsFeeder_closed.all (fun _ _ => ⟨fun _ => rfl⟩) (fun _ _ => ⟨fun _ => rfl⟩) n
  ⟨h.evalExpr, h.evalExprs, h.evalHashPairs, h.evalIdent, h.evalInfix, h.evalIf, h.evalElifs, h.evalBlock, h.evalStmts,
   h.evalStmt, h.evalStmtBody, h.evalFor, h.forBody, h.forItems, h.forRanger, h.evalIndex, h.evalUserFn, h.fnBody,
   h.evalCall, h.bindArgs, h.bindFixed, h.bindVariadic, h.blockWith, h.callHelper, h.partialHelper, h.renderIn, h.compileStmts⟩

end Plush
