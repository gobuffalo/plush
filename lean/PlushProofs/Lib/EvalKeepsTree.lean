import PlushProofs.Lib.EvalWalk
import PlushProofs.Lib.Store
/-!
  C09/C10, evaluator-wide: the scope tree is append-only (`Store.Grows`). Whatever is evaluated — on success, on
  error, on a fatal outcome — every context that existed before still exists afterwards, with the same parent:
  evaluation creates child scopes and writes variables, it never removes a scope or re-parents one.
-/
namespace Plush
open EM

structure KeepsTree {α} (m : EM α) : Prop where
  grows : ∀ s : ES, s.store.Grows (m s).2.store

theorem keepsTree_closed : Closed @KeepsTree where
  pure _ := ⟨fun _ => .refl _⟩
  bind hm hf := ⟨bind_rel (fun s s' => s.store.Grows s'.store) Store.Grows.trans hm.grows fun a => (hf a).grows⟩
  attempt hm := ⟨attempt_rel (fun s s' => s.store.Grows s'.store) hm.grows⟩
  throwErr _ := ⟨fun _ => .refl _⟩
  outOfFuel := ⟨fun _ => .refl _⟩
  unsupported _ := ⟨fun _ => .refl _⟩
  getS := ⟨fun _ => .refl _⟩
  setCurStmt _ := ⟨fun _ => .refl _⟩
  tick := ⟨fun _ => .refl _⟩
  heapSet _ _ := ⟨fun _ => .refl _⟩
  traceEv _ := ⟨fun _ => .refl _⟩
  ctxSet _ _ := ⟨fun _ => Store.set_grows _ _ _ _⟩
  ctxSetIn _ _ _ := ⟨fun _ => Store.set_grows _ _ _ _⟩
  ctxNewChild o := ⟨fun s => Store.newChild_grows s.store o⟩
  copyFrame _ _ := ⟨fun s => by
    unfold copyFrame modifyS; dsimp only
    split
    · exact .refl _
    · exact Store.foldl_set_grows _ _ _⟩
  allocSlice _ := ⟨fun _ => .refl _⟩
  allocMap _ := ⟨fun _ => .refl _⟩
  memberOf _ _ := ⟨fun _ => .refl _⟩
  withCtx c _ hm := ⟨withCtx_rel (fun s s' => s.store.Grows s'.store) (fun _ h => h) (fun _ h => h) hm.grows c⟩

structure AllKT (n : Nat) : Prop where
  evalExpr : ∀ (a : Option Expr), KeepsTree (evalExpr n a)
  evalExprs : ∀ (a : List (Option Expr)), KeepsTree (evalExprs n a)
  evalHashPairs : ∀ (a : List (Option Expr × Option Expr)) (b : List (Val × Val)), KeepsTree (evalHashPairs n a b)
  evalIdent : ∀ (a : Ident), KeepsTree (evalIdent n a)
  evalInfix : ∀ (a : Bytes) (b : Option Expr) (c : Option Expr), KeepsTree (evalInfix n a b c)
  evalIf : ∀ (a : Option Expr) (b : Block) (c : List (Token × Option Expr × Block)) (d : Option Block), KeepsTree (evalIf n a b c d)
  evalElifs : ∀ (a : List (Token × Option Expr × Block)) (b : Option Block), KeepsTree (evalElifs n a b)
  evalBlock : ∀ (a : Block), KeepsTree (evalBlock n a)
  evalStmts : ∀ (a : List Stmt) (b : List Val), KeepsTree (evalStmts n a b)
  evalStmt : ∀ (a : Stmt), KeepsTree (evalStmt n a)
  evalStmtBody : ∀ (a : Stmt), KeepsTree (evalStmtBody n a)
  evalFor : ∀ (a : Bytes) (b : Bytes) (c : Option Expr) (d : Option Block), KeepsTree (evalFor n a b c d)
  forBody : ∀ (a : Bytes) (b : Bytes) (c : Option Expr) (d : Option Block), KeepsTree (forBody n a b c d)
  forItems : ∀ (a : Bytes) (b : Bytes) (c : Block) (d : List (Val × Val)) (e : List Val), KeepsTree (forItems n a b c d e)
  forRanger : ∀ (a : Bytes) (b : Bytes) (c : Block) (d : Gen.Ranger) (e : Nat) (f : List Val), KeepsTree (forRanger n a b c d e f)
  evalIndex : ∀ (a : Option Expr) (b : Option Expr) (c : Option Expr) (d : Option Expr), KeepsTree (evalIndex n a b c d)
  evalUserFn : ∀ (a : List Ident) (b : Block) (c : List (Option Expr)), KeepsTree (evalUserFn n a b c)
  fnBody : ∀ (a : List Ident) (b : List Val) (c : Block), KeepsTree (fnBody n a b c)
  evalCall : ∀ (a : Option Expr) (b : Option Expr) (c : Expr) (d : Option (List (Option Expr))) (e : Option Block), KeepsTree (evalCall n a b c d e)
  bindArgs : ∀ (a : String) (b : Sig) (c : List (Option Expr)) (d : Option Block), KeepsTree (bindArgs n a b c d)
  bindFixed : ∀ (a : Option Block) (b : List (Option Expr × Ty)) (c : List Val), KeepsTree (bindFixed n a b c)
  bindVariadic : ∀ (a : Ty) (b : List (Option Expr)) (c : List Val), KeepsTree (bindVariadic n a b c)
  blockWith : ∀ (a : Option Block) (b : Nat), KeepsTree (blockWith n a b)
  callHelper : ∀ (a : String) (b : List Val), KeepsTree (callHelper n a b)
  partialHelper : ∀ (a : Bytes) (b : List (Val × Val)) (c : Nat), KeepsTree (partialHelper n a b c)
  renderIn : ∀ (a : Bytes) (b : Nat), KeepsTree (renderIn n a b)
  compileStmts : ∀ (a : List Stmt) (b : Bytes), KeepsTree (compileStmts n a b)

theorem allKT (n : Nat) : AllKT n :=
  have h := keepsTree_closed.all (fun _ _ => ⟨fun _ => .refl _⟩) (fun _ _ => ⟨fun _ => .refl _⟩) n
  ⟨h.evalExpr, h.evalExprs, h.evalHashPairs, h.evalIdent, h.evalInfix, h.evalIf, h.evalElifs, h.evalBlock, h.evalStmts,
   h.evalStmt, h.evalStmtBody, h.evalFor, h.forBody, h.forItems, h.forRanger, h.evalIndex, h.evalUserFn, h.fnBody,
   h.evalCall, h.bindArgs, h.bindFixed, h.bindVariadic, h.blockWith, h.callHelper, h.partialHelper, h.renderIn, h.compileStmts⟩

end Plush
