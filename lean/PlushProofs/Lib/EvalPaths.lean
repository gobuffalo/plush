import PlushProofs.Lib.EvalRun
/-!
  Dotted identifiers, for C11: what a bare name evaluates to (`rootValue`), navigation of a path (`navigate`, a fold
  from the left), and how `evalIdent` takes a path apart from the right (`evalIdent_snoc`).
-/
namespace Plush
open EM

def navigate (root : R Val) (path : List Bytes) : R Val :=
  path.foldl (fun r name => match r with | .ok c => memberStep c name | e => e) root

/-- the end of `evalIdentifier` (no `Callee`): `c.ctx.Has` / the name `nil` / `*ErrUnknownIdentifier` -/
def rootValue (name : Bytes) (s : ES) : R Val :=
  if s.store.has s.cur name then .ok (s.store.value s.cur name)
  else if name == b "nil" then .ok .nil
  else .err unknownIdent

theorem evalIdent_root (fuel : Nat) (t : Token) (name : Bytes) (s : ES) :
    evalIdent (fuel + 1) { tok := t, segs := [name], base := none } s = (rootValue name s, s) := by
  unfold rootValue
  by_cases h1 : s.store.has s.cur name = true
  · simp [evalIdent, bind, ctxHas, getS, pure, ctxValue, h1]
  · by_cases h2 : (name == b "nil") = true
    · simp [evalIdent, bind, ctxHas, getS, pure, h1, h2]
    · simp [evalIdent, bind, ctxHas, getS, pure, h1, h2, throwErr]

theorem evalIdent_snoc (f : Nat) (t : Token) (root : Bytes) (init : List Bytes) (last : Bytes) :
    evalIdent (f + 1) { tok := t, segs := root :: (init ++ [last]), base := none } =
      (do let v ← evalIdent f { tok := t, segs := root :: init, base := none }
          memberOf v last) := by
  have hd : (root :: (init ++ [last])).dropLast = root :: init := List.dropLast_concat (l₁ := root :: init)
  have hl : (root :: (init ++ [last])).getLast?.getD [] = last := by
    rw [← List.cons_append, List.getLast?_concat]; rfl
  have hstep : evalIdent (f + 1) { tok := t, segs := root :: (init ++ [last]), base := none } =
      (do let v ← evalIdent f { tok := t, segs := (root :: (init ++ [last])).dropLast, base := none }
          memberOf v ((root :: (init ++ [last])).getLast?.getD [])) := by
    cases init <;> rfl
  rw [hstep, hd, hl]

/-- the tail `cv.name` of `a[i].name`, `cv` being the base that `assignCallee` installed, where `cv` is bound -/
theorem evalIdent_based (f : Nat) (t : Token) (cv name : Bytes) (s : ES) (h : s.store.has s.cur cv = true) :
    evalIdent (f + 2) { tok := t, base := some cv, segs := [name] } s =
      (memberStep (s.store.value s.cur cv) name, s) := by
  have hroot : evalIdent (f + 1) { tok := t, base := some cv, segs := [] } s = (.ok (s.store.value s.cur cv), s) := by
    simp [evalIdent, bind, ctxHas, ctxValue, getS, pure, h]
  show (evalIdent (f + 1) { tok := t, base := some cv, segs := [] } >>= fun c => memberOf c name) s = _
  rw [bind_ok hroot]; rfl

theorem memberStep_nil (name : Bytes) : memberStep .nil name = .ok .nil := rfl
theorem memberStep_nilptr (t : String) (name : Bytes) : memberStep (.ptr t none) name = .err { kind := "no-field-or-method" } := rfl
theorem memberStep_scalar (name : Bytes) (i : Int) (s : Bytes) (e : Ty) (a : Nat) :
    memberStep (.int i) name = .err { kind := "no-field-or-method" } ∧
    memberStep (.str s) name = .err { kind := "no-field-or-method" } ∧
    memberStep (.list e a) name = .err { kind := "no-field-or-method" } ∧
    memberStep (.map .string .any a) name = .err { kind := "no-field-or-method" } := ⟨rfl, rfl, rfl, rfl⟩

theorem navigate_ok_cons (r : R Val) (name : Bytes) (rest : List Bytes) :
    navigate r (name :: rest) = navigate (match r with | .ok c => memberStep c name | e => e) rest := rfl

theorem navigate_snoc (r : R Val) (init : List Bytes) (last : Bytes) :
    navigate r (init ++ [last]) = match navigate r init with | .ok c => memberStep c last | e => e := by
  simp only [navigate, List.foldl_append, List.foldl_cons, List.foldl_nil]

end Plush
