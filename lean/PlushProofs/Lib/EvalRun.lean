import PlushModel
/-!
  Running the evaluator monad on a state. `EM.bind_ok/err/fatal`, `EM.attempt_*` move a known run `m s = (r, s')`
  through `>>=` / `attempt` without unfolding the `Monad` instance. Two things the model spells out in place are
  given as combinators: `Render`'s scope switch is a `withCtx` (`renderIn_eq_withCtx`), and what the five tolerant
  sites do with an operand's error is `operand` (`evalExpr_pre`, `evalIf_succ`, `evalElifs_cons`, `evalInfix_succ`).
  Then: what `bind` / `attempt` / `withCtx` do to a relation between the state before and after (`bind_rel` …), and
  `Render` / `compile` on a source whose parse is known (`renderIn_of_parse`, `renderTop_of_renderIn`).
-/
namespace Plush
open EM

namespace EM
variable {α β : Type}

theorem bind_ok {m : EM α} {f : α → EM β} {s s' : ES} {a : α} (h : m s = (.ok a, s')) : (m >>= f) s = f a s' := by
  show (match m s with | (.ok a, s') => f a s' | (.err e, s') => (.err e, s') | (.fatal x, s') => (.fatal x, s')) = _
  rw [h]

theorem bind_err {m : EM α} {f : α → EM β} {s s' : ES} {e : Err} (h : m s = (.err e, s')) : (m >>= f) s = (.err e, s') := by
  show (match m s with | (.ok a, s') => f a s' | (.err e, s') => (.err e, s') | (.fatal x, s') => (.fatal x, s')) = _
  rw [h]

theorem bind_fatal {m : EM α} {f : α → EM β} {s s' : ES} {x : Fatal} (h : m s = (.fatal x, s')) :
    (m >>= f) s = (.fatal x, s') := by
  show (match m s with | (.ok a, s') => f a s' | (.err e, s') => (.err e, s') | (.fatal x, s') => (.fatal x, s')) = _
  rw [h]

theorem bind_assoc (m : EM α) (f : α → EM β) {γ : Type} (g : β → EM γ) :
    (m >>= f) >>= g = m >>= fun a => f a >>= g := by
  funext s
  show (match (match m s with | (.ok a, s') => f a s' | (.err e, s') => (.err e, s') | (.fatal x, s') => (.fatal x, s')) with
        | (.ok a, s') => g a s' | (.err e, s') => (.err e, s') | (.fatal x, s') => (.fatal x, s')) =
       (match m s with | (.ok a, s') => (f a >>= g) s' | (.err e, s') => (.err e, s') | (.fatal x, s') => (.fatal x, s'))
  rcases m s with ⟨_ | _ | _, s'⟩ <;> rfl

theorem getS_bind (k : ES → EM β) (s : ES) : (getS >>= k) s = k s s := rfl

theorem attempt_ok {m : EM α} {s s' : ES} {a : α} (h : m s = (.ok a, s')) : attempt m s = (.ok (.ok a), s') := by
  simp only [attempt, h]
theorem attempt_err {m : EM α} {s s' : ES} {e : Err} (h : m s = (.err e, s')) : attempt m s = (.ok (.error e), s') := by
  simp only [attempt, h]
theorem attempt_fatal {m : EM α} {s s' : ES} {x : Fatal} (h : m s = (.fatal x, s')) : attempt m s = (.fatal x, s') := by
  simp only [attempt, h]

theorem err_of_attempt {m : EM α} {s s' : ES} {e : Err} (h : attempt m s = (.ok (.error e), s')) : m s = (.err e, s') := by
  rcases hms : m s with ⟨_ | _ | _, s1⟩
  · rw [attempt_ok hms] at h; cases h
  · rw [attempt_err hms] at h; cases h; rfl
  · rw [attempt_fatal hms] at h; cases h

end EM

theorem heapSlice_run {s : ES} {a : Nat} {items : Array Val} (h : s.heap[a]? = some (.slice items)) :
    heapSlice a s = (.ok items, s) := by
  simp only [heapSlice, getS_bind, h]; rfl

theorem heapMap_run {s : ES} {a : Nat} {es : List (Val × Val)} (h : s.heap[a]? = some (.map es)) :
    heapMap a s = (.ok es, s) := by
  simp only [heapMap, getS_bind, h]; rfl

theorem ctxNewChild_run (o : Nat) (s : ES) :
    ctxNewChild o s = (.ok (s.store.newChild o).2, { s with store := (s.store.newChild o).1 }) := by
  unfold ctxNewChild
  generalize s.store.newChild o = p
  rfl

theorem withCtx_run {α} (c : Nat) (m : EM α) (s : ES) :
    withCtx c m s = match m { s with cur := c } with
      | (.ok v, s') => (.ok v, { s' with cur := s.cur })
      | (.err e, s') => (.err e, { s' with cur := s.cur })
      | (.fatal x, s') => (.fatal x, s') := by
  show (attempt m >>= _) { s with cur := c } = _
  rcases h : m { s with cur := c } with ⟨_ | _ | _, s'⟩
  · rw [bind_ok (attempt_ok h)]; rfl
  · rw [bind_ok (attempt_err h)]; rfl
  · rw [bind_fatal (attempt_fatal h)]

theorem renderIn_eq_withCtx (n : Nat) (src : Bytes) (ctx : Nat) :
    renderIn (n+1) src ctx =
      (match parseBytes src with
      | .error .outOfFuel => fatal .outOfFuel
      | .error (.crash s) => fatal (.crash s)
      | .error (.hang s) => fatal (.crash ("hang " ++ s))
      | .ok (prog, errs) =>
        if !errs.isEmpty then throwErr { kind := "parse", line := (errs[0]?.bind (·.line)) }
        else do
          let ocur := (← getS).curStmt
          withCtx ctx do
            modifyS fun s => { s with curStmt := none }
            let r ← attempt (compileStmts n prog.stmts [])
            modifyS fun s => { s with curStmt := ocur }
            match r with
            | .ok out => pure out
            | .error e => throwErr e) := by
  unfold renderIn
  cases parseBytes src with
  | error f => cases f <;> rfl
  | ok pr =>
    obtain ⟨prog, errs⟩ := pr
    dsimp only
    split
    · rfl
    · funext s
      simp only [withCtx, bind, getCur, getS, setCur, modifyS, attempt, pure]
      cases compileStmts n prog.stmts [] _ with
      | mk r s' => cases r <;> rfl

/-! ### A relation between the state before and the state after
    (what `bind`, `attempt` and `withCtx` ask of an invariant of that form) -/
section
variable (R : ES → ES → Prop) {α β : Type}

theorem bind_rel (trans : ∀ {a b c}, R a b → R b c → R a c) {m : EM α} {f : α → EM β}
    (hm : ∀ s, R s (m s).2) (hf : ∀ a s, R s (f a s).2) (s : ES) : R s ((m >>= f) s).2 := by
  have h1 := hm s
  rcases hms : m s with ⟨a | _ | _, s'⟩ <;> rw [hms] at h1
  · rw [bind_ok hms]; exact trans h1 (hf a s')
  · rw [bind_err hms]; exact h1
  · rw [bind_fatal hms]; exact h1

theorem attempt_rel {m : EM α} (hm : ∀ s, R s (m s).2) (s : ES) : R s (attempt m s).2 := by
  have h1 := hm s
  rcases hms : m s with ⟨_ | _ | _, s'⟩ <;> rw [hms] at h1
  · rw [attempt_ok hms]; exact h1
  · rw [attempt_err hms]; exact h1
  · rw [attempt_fatal hms]; exact h1

/-- for a relation that does not look at `cur` -/
theorem withCtx_rel (hin : ∀ {a b} c, R { a with cur := c } b → R a b) (hout : ∀ {a b} c, R a b → R a { b with cur := c })
    {m : EM α} (hm : ∀ s, R s (m s).2) (c : Nat) (s : ES) : R s (withCtx c m s).2 := by
  have h1 := hin c (hm { s with cur := c })
  rw [withCtx_run]
  generalize m { s with cur := c } = r at h1 ⊢
  rcases r with ⟨_ | _ | _, _⟩
  · exact hout _ h1
  · exact hout _ h1
  · exact h1

end

/-- A condition, or an operand of `!` or of an infix operator, at the five `c.curStmt = cur` sites of compiler.go:
    when `tol`, an error that is itself an `*ErrUnknownIdentifier` (`direct`) counts as nil and `cur`, the statement
    blamed before the operand was evaluated, is blamed again. -/
def operand (cur : Option Nat) (tol : Bool) (m : EM Val) : EM Val := do
  match (← attempt m) with
  | .ok v => pure v
  | .error e => if tol && e.direct then forgive cur else throwErr e

theorem operand_ok {cur tol} {m : EM Val} {s s' : ES} {v : Val} (h : m s = (.ok v, s')) :
    operand cur tol m s = (.ok v, s') := by
  simp only [operand, bind_ok (attempt_ok h)]; rfl

theorem operand_err {cur tol} {m : EM Val} {s s' : ES} {e : Err} (h : m s = (.err e, s')) :
    operand cur tol m s =
      if (tol && e.direct) = true then (.ok .nil, { s' with curStmt := cur }) else (.err e, s') := by
  simp only [operand, bind_ok (attempt_err h)]
  cases tol && e.direct <;> rfl

/-- The model's `do` blocks elaborate with the continuation inside each arm of the match on the operand's outcome;
    with `operand … >>= k` in that shape the one-step equations below close by `rfl`. -/
theorem operand_bind {cur tol} {m : EM Val} {β : Type} (k : Val → EM β) :
    operand cur tol m >>= k = (do
      match (← attempt m) with
      | .ok v => pure v >>= k
      | .error e => if tol && e.direct then forgive cur >>= k else throwErr e >>= k) := by
  rw [operand, EM.bind_assoc]
  congr 1; funext r
  cases r with
  | ok v => rfl
  | error e => dsimp only; split <;> rfl

theorem operand_strict {cur tol} {m : EM Val} {s s' : ES} {e : Err} (h : m s = (.err e, s'))
    (hn : tol = false ∨ e.direct = false) : operand cur tol m s = (.err e, s') := by
  rw [operand_err h]
  rcases hn with hn | hn <;> simp [hn]

theorem evalExpr_pre (f : Nat) (t : Token) (op : Bytes) (r : Option Expr) :
    evalExpr (f + 1) (some (.pre t op r)) = (do
      let cur := (← getS).curStmt
      let v ← operand cur true (evalExpr f r)
      if op == b "!" then pure (.bool (!isTruthy v)) else fail "unknown-prefix-operator") := by
  rw [evalExpr]; simp only [operand_bind]; rfl

theorem evalIf_succ (f : Nat) (c : Option Expr) (bl : Block) (elifs els) :
    evalIf (f + 1) c bl elifs els = (do
      let cur := (← getS).curStmt
      let con ← operand cur true (evalExpr f c)
      if isTruthy con then evalBlock f bl else evalElifs f elifs els) := by
  rw [evalIf]; simp only [operand_bind]; rfl

theorem evalElifs_cons (f : Nat) (t : Token) (c : Option Expr) (bl : Block) (rest els) :
    evalElifs (f + 1) ((t, c, bl) :: rest) els = (do
      let cur := (← getS).curStmt
      let con ← operand cur true (evalExpr f c)
      if isTruthy con then evalBlock f bl else evalElifs f rest els) := by
  rw [evalElifs]; simp only [operand_bind]; rfl

theorem evalInfix_succ (f : Nat) (op : Bytes) (l r : Option Expr) :
    evalInfix (f + 1) op l r = (do
      let tol := Gen.tolerantOps.contains op
      let cur := (← getS).curStmt
      let lres ← operand cur tol (evalExpr f l)
      if op == [38, 38] && !isTruthy lres then pure (.bool false)
      else if op == [124, 124] && isTruthy lres then pure (.bool true)
      else do
        let rres ← operand cur tol (evalExpr f r)
        if op == [38, 38] || op == [124, 124] then pure (.bool (isTruthy rres)) else applyInfix op lres rres) := by
  rw [evalInfix]; simp only [operand_bind]; rfl

theorem evalInfix_values {f : Nat} {op : Bytes} {l r : Option Expr} {s s1 s2 : ES} {lv rv : Val}
    (hl : evalExpr f l s = (.ok lv, s1)) (hr : evalExpr f r s1 = (.ok rv, s2)) (h1 : op ≠ [38, 38]) (h2 : op ≠ [124, 124]) :
    evalInfix (f + 1) op l r s = applyInfix op lv rv s2 := by
  have h1 : (op == [38, 38]) = false := by simpa using h1
  have h2 : (op == [124, 124]) = false := by simpa using h2
  simp only [evalInfix_succ, getS_bind, bind_ok (operand_ok hl), h1, h2, Bool.false_and, Bool.false_or,
    Bool.false_eq_true, if_false, bind_ok (operand_ok hr)]

theorem renderIn_of_parse {fuel ctx : Nat} {src : Bytes} {ss : List Stmt} {s s1 : ES} {out : Bytes}
    (hp : parseBytes src = .ok ({ stmts := ss }, #[]))
    (hc : compileStmts fuel ss [] { s with cur := ctx, curStmt := none } = (.ok out, s1)) :
    renderIn (fuel + 1) src ctx s = (.ok out, { s1 with cur := s.cur, curStmt := s.curStmt }) := by
  rw [renderIn]
  simp only [hp, Array.isEmpty_empty, Bool.not_true, Bool.false_eq_true, if_false]
  rw [bind_ok (show getCur s = (.ok s.cur, s) from rfl), getS_bind,
    bind_ok (show setCur ctx s = (.ok (), { s with cur := ctx }) from rfl),
    bind_ok (show modifyS _ { s with cur := ctx } = (.ok (), { s with cur := ctx, curStmt := none }) from rfl),
    bind_ok (attempt_ok hc)]
  rfl

theorem compileStmts_nil (fuel : Nat) (out : Bytes) (s : ES) : compileStmts (fuel + 1) [] out s = (.ok out, s) := by
  simp only [compileStmts]; rfl

/-- `evalFuel src = 40 * src.length + 400`, so a fact about `renderIn` at every budget `fuel + k`, `k ≤ 400`, applies
    to `renderTop` -/
theorem renderTop_of_renderIn {src out : Bytes} (k : Nat) (hk : k ≤ 400)
    (h : ∀ fuel ctx s, renderIn (fuel + k) src ctx s = (.ok out, s))
    (data : List (Bytes × Val)) (heap : Array HeapObj) (feeder : List (Bytes × Bytes)) :
    (renderTop src data heap feeder).1 = .ok out := by
  unfold renderTop
  simp only
  rw [show evalFuel src = (40 * src.length + (400 - k)) + k by simp only [evalFuel]; omega, h]

theorem evalUserFn_too_few (fuel : Nat) (ps : List Ident) (body : Block) (args : List (Option Expr)) (s : ES)
    (h : args.length < ps.length) :
    evalUserFn (fuel + 1) ps body args s = (.err { kind := "too-few-arguments" }, s) := by
  rw [evalUserFn, if_pos h]; rfl

theorem evalExpr_str (fuel : Nat) (t : Token) (c : Bytes) (s : ES) :
    evalExpr (fuel + 1) (some (.str t c)) s = (.ok (.str c), s) := by
  rw [evalExpr]; rfl

end Plush
