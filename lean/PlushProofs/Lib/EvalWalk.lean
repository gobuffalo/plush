import PlushProofs.Lib.EvalRun
/-!
  One walk over the 27 mutually recursive functions of the evaluator, for any property of evaluator actions
  that the primitives have and the combinators preserve (`Closed`). `KeepsCur`, `KeepsTree`, `KeepsFeeder`
  and `CrashIn` are instances.
-/
namespace Plush
open EM

/-- the crash sites of the evaluator model: the three places where Go would dereference a nil AST child -/
def nilChildSites : List String :=
  ["identifier without segments", "evalLetStatement: nil Name", "evalForExpression: nil Block"]

structure EM.Closed (I : ∀ {α : Type}, EM α → Prop) : Prop where
  pure {α} (a : α) : I (Pure.pure a : EM α)
  bind {α β} {m : EM α} {f : α → EM β} : I m → (∀ a, I (f a)) → I (m >>= f)
  attempt {α} {m : EM α} : I m → I (EM.attempt m)
  throwErr {α} (e : Err) : I (EM.throwErr e : EM α)
  outOfFuel {α} : I (EM.fatal .outOfFuel : EM α)
  unsupported {α} (w : String) : I (EM.unsupported w : EM α)
  getS : I EM.getS
  /-- `c.curStmt = …`: the blamed statement is set, cleared and put back -/
  setCurStmt (c : Option Nat) : I (EM.modifyS fun st => { st with curStmt := c })
  /-- the harness helper `tick` -/
  tick : I (EM.modifyS fun s => { s with ticks := s.ticks + 1 })
  heapSet (a : Nat) (o : HeapObj) : I (heapSet a o)
  traceEv (e : String) : I (traceEv e)
  ctxSet (k : Bytes) (v : Val) : I (ctxSet k v)
  ctxSetIn (c : Nat) (k : Bytes) (v : Val) : I (ctxSetIn c k v)
  ctxNewChild (o : Nat) : I (ctxNewChild o)
  copyFrame (a c : Nat) : I (copyFrame a c)
  allocSlice (items : Array Val) : I (allocSlice items)
  allocMap (es : List (Val × Val)) : I (allocMap es)
  memberOf (c : Val) (name : Bytes) : I (memberOf c name)
  withCtx {α} (c : Nat) (m : EM α) : I m → I (withCtx c m)

structure EM.All (I : ∀ {α : Type}, EM α → Prop) (n : Nat) : Prop where
  evalExpr : ∀ (a : Option Expr), I (evalExpr n a)
  evalExprs : ∀ (a : List (Option Expr)), I (evalExprs n a)
  evalHashPairs : ∀ (a : List (Option Expr × Option Expr)) (b : List (Val × Val)), I (evalHashPairs n a b)
  evalIdent : ∀ (a : Ident), I (evalIdent n a)
  evalInfix : ∀ (a : Bytes) (b : Option Expr) (c : Option Expr), I (evalInfix n a b c)
  evalIf : ∀ (a : Option Expr) (b : Block) (c : List (Token × Option Expr × Block)) (d : Option Block), I (evalIf n a b c d)
  evalElifs : ∀ (a : List (Token × Option Expr × Block)) (b : Option Block), I (evalElifs n a b)
  evalBlock : ∀ (a : Block), I (evalBlock n a)
  evalStmts : ∀ (a : List Stmt) (b : List Val), I (evalStmts n a b)
  evalStmt : ∀ (a : Stmt), I (evalStmt n a)
  evalStmtBody : ∀ (a : Stmt), I (evalStmtBody n a)
  evalFor : ∀ (a : Bytes) (b : Bytes) (c : Option Expr) (d : Option Block), I (evalFor n a b c d)
  forBody : ∀ (a : Bytes) (b : Bytes) (c : Option Expr) (d : Option Block), I (forBody n a b c d)
  forItems : ∀ (a : Bytes) (b : Bytes) (c : Block) (d : List (Val × Val)) (e : List Val), I (forItems n a b c d e)
  forRanger : ∀ (a : Bytes) (b : Bytes) (c : Block) (d : Gen.Ranger) (e : Nat) (f : List Val), I (forRanger n a b c d e f)
  evalIndex : ∀ (a : Option Expr) (b : Option Expr) (c : Option Expr) (d : Option Expr), I (evalIndex n a b c d)
  evalUserFn : ∀ (a : List Ident) (b : Block) (c : List (Option Expr)), I (evalUserFn n a b c)
  fnBody : ∀ (a : List Ident) (b : List Val) (c : Block), I (fnBody n a b c)
  evalCall : ∀ (a : Option Expr) (b : Option Expr) (c : Expr) (d : Option (List (Option Expr))) (e : Option Block), I (evalCall n a b c d e)
  bindArgs : ∀ (a : String) (b : Sig) (c : List (Option Expr)) (d : Option Block), I (bindArgs n a b c d)
  bindFixed : ∀ (a : Option Block) (b : List (Option Expr × Ty)) (c : List Val), I (bindFixed n a b c)
  bindVariadic : ∀ (a : Ty) (b : List (Option Expr)) (c : List Val), I (bindVariadic n a b c)
  blockWith : ∀ (a : Option Block) (b : Nat), I (blockWith n a b)
  callHelper : ∀ (a : String) (b : List Val), I (callHelper n a b)
  partialHelper : ∀ (a : Bytes) (b : List (Val × Val)) (c : Nat), I (partialHelper n a b c)
  renderIn : ∀ (a : Bytes) (b : Nat), I (renderIn n a b)
  compileStmts : ∀ (a : List Stmt) (b : Bytes), I (compileStmts n a b)

variable {I : ∀ {α : Type}, EM α → Prop}

namespace EM.Closed

theorem fail (hI : Closed I) {α} (k : String) : I (EM.fail k : EM α) := hI.throwErr _
theorem getCur (hI : Closed I) : I getCur := hI.bind hI.getS fun _ => hI.pure _
theorem ctxHas (hI : Closed I) (k : Bytes) : I (ctxHas k) := hI.bind hI.getS fun _ => hI.pure _
theorem ctxValue (hI : Closed I) (k : Bytes) : I (ctxValue k) := hI.bind hI.getS fun _ => hI.pure _

theorem forgive (hI : Closed I) (cur : Option Nat) : I (forgive cur) :=
  hI.bind (hI.setCurStmt _) fun _ => hI.pure _
theorem operand (hI : Closed I) (cur : Option Nat) (tol : Bool) {m : EM Val} (h : I m) : I (operand cur tol m) := by
  unfold Plush.operand
  refine hI.bind (hI.attempt h) fun r => ?_
  split
  · exact hI.pure _
  · split
    · exact hI.forgive _
    · exact hI.throwErr _

theorem forM (hI : Closed I) {α} (l : List α) (f : α → EM PUnit) (h : ∀ a, I (f a)) : I (l.forM f) := by
  induction l with
  | nil => exact hI.pure _
  | cons a as ih => exact hI.bind (h a) fun _ => ih

theorem mapM_loop (hI : Closed I) {α β} (f : α → EM β) (h : ∀ a, I (f a)) :
    ∀ (l : List α) (acc : List β), I (List.mapM.loop f l acc)
  | [], _ => hI.pure _
  | a :: as, _ => hI.bind (h a) fun _ => mapM_loop hI f h as _

theorem mapM (hI : Closed I) {α β} (l : List α) (f : α → EM β) (h : ∀ a, I (f a)) : I (l.mapM f) :=
  mapM_loop hI f h l []

end EM.Closed

/-- Decomposes `I m` along the structure of `m`: a `match`/`if` is split, a combinator is peeled off, and a leaf
    is closed by the fact about that primitive — or by one of the `facts`, which are what is known of the other
    evaluator functions `m` calls. Everything but `split` runs `with_reducible`, so that no evaluator function is
    unfolded in the search for the rule that applies. -/
macro "walk" hI:ident "[" facts:term,* "]" : tactic =>
  `(tactic| repeat (any_goals (first
    | split
    | with_reducible first
      | refine ($hI).bind ?_ fun _ => ?_
      | exact ($hI).pure _
      | exact ($hI).throwErr _ | exact ($hI).fail _
      $[| exact $facts]*
      | refine ($hI).attempt ?_
      | refine ($hI).operand _ _ ?_
      | exact ($hI).forgive _
      | exact ($hI).unsupported _ | exact ($hI).outOfFuel
      | exact ($hI).getS | exact ($hI).getCur | exact ($hI).ctxHas _ | exact ($hI).ctxValue _
      | exact ($hI).ctxSet _ _ | exact ($hI).ctxSetIn _ _ _ | exact ($hI).ctxNewChild _ | exact ($hI).copyFrame _ _
      | exact ($hI).allocSlice _ | exact ($hI).allocMap _ | exact ($hI).heapSet _ _ | exact ($hI).traceEv _
      | exact ($hI).memberOf _ _
      | exact ($hI).setCurStmt _ | exact ($hI).tick
      | refine ($hI).withCtx _ _ ?_
      | refine ($hI).forM _ _ fun _ => ?_
      | refine ($hI).mapM _ _ fun _ => ?_
      | assumption
    | dsimp only)))

namespace EM.Closed
variable (hI : Closed I)
include hI

theorem heapSlice (a : Nat) : I (heapSlice a) := by unfold Plush.heapSlice; walk hI []
theorem heapMap (a : Nat) : I (heapMap a) := by unfold Plush.heapMap; walk hI []
theorem renderVal (v : Val) : I (renderVal v) := by unfold Plush.renderVal; walk hI []
theorem applyOpOut (o : OpOut) (k : String) : I (applyOpOut o k) := by unfold Plush.applyOpOut; walk hI []
theorem applyInfix (op : Bytes) (l r : Val) : I (applyInfix op l r) := by
  unfold Plush.applyInfix; walk hI [hI.applyOpOut _ _, hI.heapSlice _]
theorem updateIndex (l i v : Val) : I (updateIndex l i v) := by
  unfold Plush.updateIndex; walk hI [hI.heapSlice _, hI.heapMap _]
theorem accessIndex (l i : Val) (h : Bool) : I (accessIndex l i h) := by
  unfold Plush.accessIndex; walk hI [hI.heapSlice _, hI.heapMap _]
theorem mapKeyMissing (l i : Val) : I (mapKeyMissing l i) := by
  unfold Plush.mapKeyMissing; walk hI [hI.heapMap _]

end EM.Closed

/-! Each function is unfolded at an arbitrary fuel `k`; what it calls — the `facts` given to `walk` — it calls at the
    fuel below, if there is one (`k = n + 1`), where `I` holds by `ih`. -/
section
variable (hI : EM.Closed I) {k : Nat} (ih : ∀ n, k = n + 1 → EM.All I n)
  (hc : ∀ {α} site, site ∈ nilChildSites → I (fatal (.crash site) : EM α))
  (hparse : ∀ {α} {src : Bytes} {f : PFail}, parseBytes src = .error f → ∀ x : Fatal, I (fatal x : EM α))
include hI ih

theorem walk_evalExpr : ∀ a, I (evalExpr k a) := by
  intro a; unfold evalExpr
  walk hI [(ih _ rfl).evalInfix _ _ _, (ih _ rfl).evalHashPairs _ _, (ih _ rfl).evalIndex _ _ _ _,
    (ih _ rfl).evalCall _ _ _ _ _, (ih _ rfl).evalIdent _, (ih _ rfl).evalExprs _, (ih _ rfl).evalFor _ _ _ _,
    (ih _ rfl).evalIf _ _ _ _, (ih _ rfl).evalExpr _]
theorem walk_evalExprs : ∀ a, I (evalExprs k a) := by
  intro a; unfold evalExprs; walk hI [(ih _ rfl).evalExpr _, (ih _ rfl).evalExprs _]
theorem walk_evalHashPairs : ∀ a b, I (evalHashPairs k a b) := by
  intro a b; unfold evalHashPairs; walk hI [(ih _ rfl).evalExpr _, (ih _ rfl).evalHashPairs _ _]
include hc in
theorem walk_evalIdent : ∀ a, I (evalIdent k a) := by
  intro a; unfold evalIdent; walk hI [(ih _ rfl).evalIdent _, hc _ (by decide)]
/- `evalInfix` is walked through its `operand` equation only because that is cheaper: unfolded as written, the early
   exits of the `do` block copy the rest of the function into every arm of the two error matches, and the walk visits
   each copy (six times the work; `evalIf`, with one such match, is walked as it stands). -/
theorem walk_evalInfix : ∀ a b c, I (evalInfix k a b c) := by
  intro a b c
  cases k with
  | zero => unfold evalInfix; exact hI.outOfFuel
  | succ n => rw [evalInfix_succ]; walk hI [(ih _ rfl).evalExpr _, hI.applyInfix _ _ _]
theorem walk_evalIf : ∀ a b c d, I (evalIf k a b c d) := by
  intro a b c d; unfold evalIf; walk hI [(ih _ rfl).evalExpr _, (ih _ rfl).evalBlock _, (ih _ rfl).evalElifs _ _]
theorem walk_evalElifs : ∀ a b, I (evalElifs k a b) := by
  intro a b; unfold evalElifs; walk hI [(ih _ rfl).evalBlock _, (ih _ rfl).evalExpr _, (ih _ rfl).evalElifs _ _]
theorem walk_evalBlock : ∀ a, I (evalBlock k a) := by
  intro a; unfold evalBlock; walk hI [(ih _ rfl).evalStmts _ _]
theorem walk_evalStmts : ∀ a b, I (evalStmts k a b) := by
  intro a b; unfold evalStmts; walk hI [(ih _ rfl).evalStmt _, (ih _ rfl).evalStmts _ _]
theorem walk_evalStmt : ∀ a, I (evalStmt k a) := by
  intro a; unfold evalStmt; walk hI [(ih _ rfl).evalStmtBody _]
include hc in
theorem walk_evalStmtBody : ∀ a, I (evalStmtBody k a) := by
  intro a; unfold evalStmtBody; walk hI [(ih _ rfl).evalExpr _, hc _ (by decide)]
theorem walk_evalFor : ∀ a b c d, I (evalFor k a b c d) := by
  intro a b c d; unfold evalFor; walk hI [(ih _ rfl).forBody _ _ _ _]
include hc in
theorem walk_forBody : ∀ a b c d, I (forBody k a b c d) := by
  intro a b c d; unfold forBody
  walk hI [(ih _ rfl).evalExpr _, (ih _ rfl).forItems _ _ _ _ _, (ih _ rfl).forRanger _ _ _ _ _ _, hI.heapSlice _,
    hI.heapMap _, hc _ (by decide)]
theorem walk_forItems : ∀ a b c d e, I (forItems k a b c d e) := by
  intro a b c d e; unfold forItems; walk hI [(ih _ rfl).evalBlock _, (ih _ rfl).forItems _ _ _ _ _]
theorem walk_forRanger : ∀ a b c d e f, I (forRanger k a b c d e f) := by
  intro a b c d e f; unfold forRanger; walk hI [(ih _ rfl).evalBlock _, (ih _ rfl).forRanger _ _ _ _ _ _]
theorem walk_evalIndex : ∀ a b c d, I (evalIndex k a b c d) := by
  intro a b c d; unfold evalIndex
  walk hI [(ih _ rfl).evalExpr _, hI.updateIndex _ _ _, hI.accessIndex _ _ _, hI.mapKeyMissing _ _]
theorem walk_evalUserFn : ∀ a b c, I (evalUserFn k a b c) := by
  intro a b c; unfold evalUserFn; walk hI [(ih _ rfl).evalExprs _, (ih _ rfl).fnBody _ _ _]
theorem walk_fnBody : ∀ a b c, I (fnBody k a b c) := by
  intro a b c; unfold fnBody; walk hI [(ih _ rfl).evalBlock _]
theorem walk_evalCall : ∀ a b c d e, I (evalCall k a b c d e) := by
  intro a b c d e; unfold evalCall
  walk hI [(ih _ rfl).evalExpr _, (ih _ rfl).evalUserFn _ _ _, (ih _ rfl).bindArgs _ _ _ _,
    (ih _ rfl).callHelper _ _]
theorem walk_bindArgs : ∀ a b c d, I (bindArgs k a b c d) := by
  intro a b c d; unfold bindArgs; walk hI [(ih _ rfl).bindFixed _ _ _, (ih _ rfl).bindVariadic _ _ _]
theorem walk_bindFixed : ∀ a b c, I (bindFixed k a b c) := by
  intro a b c; unfold bindFixed; walk hI [(ih _ rfl).evalExpr _, (ih _ rfl).bindFixed _ _ _]
theorem walk_bindVariadic : ∀ a b c, I (bindVariadic k a b c) := by
  intro a b c; unfold bindVariadic; walk hI [(ih _ rfl).evalExpr _, (ih _ rfl).bindVariadic _ _ _]
theorem walk_blockWith : ∀ a b, I (blockWith k a b) := by
  intro a b; unfold blockWith; walk hI [(ih _ rfl).evalBlock _, hI.renderVal _]
theorem walk_callHelper : ∀ a b, I (callHelper k a b) := by
  intro a b; unfold callHelper
  walk hI [(ih _ rfl).blockWith _ _, (ih _ rfl).partialHelper _ _ _, hI.heapSlice _, hI.heapMap _]
theorem walk_partialHelper : ∀ a b c, I (partialHelper k a b c) := by
  intro a b c; unfold partialHelper; walk hI [(ih _ rfl).renderIn _ _, (ih _ rfl).partialHelper _ _ _]
include hparse in
theorem walk_renderIn : ∀ a b, I (renderIn k a b) := by
  intro a b
  cases k with
  | zero => unfold renderIn; exact hI.outOfFuel
  | succ n =>
    rw [renderIn_eq_withCtx]
    cases hp : parseBytes a with
    | error f => cases f <;> exact hparse hp _
    | ok pr =>
      obtain ⟨prog, errs⟩ := pr
      dsimp only
      walk hI [(ih _ rfl).compileStmts _ _]
include hc in
theorem walk_compileStmts : ∀ a b, I (compileStmts k a b) := by
  intro a b; unfold compileStmts; walk hI [(ih _ rfl).evalExpr _, (ih _ rfl).compileStmts _ _, hI.renderVal _, hc _ (by decide)]

end

/-- `I` holds of all 27 functions at every fuel, when it is closed, holds of the crashes at the three nil-child sites (`hc`), and —
    for a nested `Render` whose source did not parse — of whatever fatal outcome that is turned into (`hparse`; no source fails
    to parse, but that is Theorem B's business, not the walk's) -/
theorem EM.Closed.all (hI : EM.Closed I) (hc : ∀ {α} site, site ∈ nilChildSites → I (fatal (.crash site) : EM α))
    (hparse : ∀ {α} {src : Bytes} {f : PFail}, parseBytes src = .error f → ∀ x : Fatal, I (fatal x : EM α))
    (n : Nat) : EM.All I n := by
  have step : ∀ k, (∀ n, k = n + 1 → EM.All I n) → EM.All I k := fun _ ih =>
    ⟨walk_evalExpr hI ih, walk_evalExprs hI ih, walk_evalHashPairs hI ih, walk_evalIdent hI ih hc, walk_evalInfix hI ih,
      walk_evalIf hI ih, walk_evalElifs hI ih, walk_evalBlock hI ih, walk_evalStmts hI ih, walk_evalStmt hI ih,
      walk_evalStmtBody hI ih hc, walk_evalFor hI ih, walk_forBody hI ih hc, walk_forItems hI ih, walk_forRanger hI ih,
      walk_evalIndex hI ih, walk_evalUserFn hI ih, walk_fnBody hI ih, walk_evalCall hI ih, walk_bindArgs hI ih,
      walk_bindFixed hI ih, walk_bindVariadic hI ih, walk_blockWith hI ih, walk_callHelper hI ih, walk_partialHelper hI ih,
      walk_renderIn hI ih hparse, walk_compileStmts hI ih hc⟩
  induction n with
  | zero => exact step 0 fun _ h => nomatch h
  | succ n ih => exact step (n + 1) fun _ h => by cases h; exact ih

end Plush
