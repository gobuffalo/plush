import PlushModel.Lexer
/-!
  The invariant `WF` of the scanner (Theorem A, DESIGN §13.6) says that a state is determined by its input, its
  position and its mode: it is `cur a p i`.  Every scanning loop of tag mode takes `cur a p i` to `cur a (p + n) i`,
  and `n` depends only on the bytes from `p` on (`View`).  Per loop there is one closed form (`…_cur`: where the loop
  lands, given the bytes; for the string-literal loop it is `readStringLoop_cur` in `StringLit`, on a spelled literal)
  and one two-sided statement (`…_scan`: such an `n` exists, inside the input, and is the same from any other place
  where the same bytes lie ahead).  That the invariant is kept, that nothing moves backwards, that the line counter is
  exact and that scanning depends on the suffix only are read off these.  The text loop `readHTMLLoop` is in
  `LexerTotal`.
-/
namespace Plush
namespace LX

def countLF (a : Array UInt8) : Nat → Nat
  | 0 => 0
  | n+1 => countLF a n + (if a.getD n 0 == 10 then 1 else 0)

structure WF (l : LX) : Prop where
  rp : l.rp = l.pos + 1
  ch : l.ch = l.input.getD l.pos 0
  nc : l.crashed = false
  /-- Go's `curLine`: `readChar` counts a line feed when it steps ONTO it, so the byte under `position` is included -/
  ln : l.line = 1 + countLF l.input (l.pos + 1)

structure Adv (l l' : LX) : Prop where
  wf : l'.WF
  input : l'.input = l.input
  pos : l.pos ≤ l'.pos

def cur (a : Array UInt8) (p : Nat) (ins : Bool) : LX :=
  { input := a, pos := p, rp := p + 1, ch := a.getD p 0, inside := ins, line := 1 + countLF a (p + 1), crashed := false }

variable {a a' : Array UInt8} {p p' : Nat} {i : Bool} {f f' : Nat}

@[simp] theorem readChar_input (l : LX) : l.readChar.input = l.input := rfl
@[simp] theorem readChar_pos (l : LX) : l.readChar.pos = l.rp := rfl
@[simp] theorem readChar_rp (l : LX) : l.readChar.rp = l.rp + 1 := rfl
@[simp] theorem readChar_crashed (l : LX) : l.readChar.crashed = l.crashed := rfl
@[simp] theorem readChar_inside (l : LX) : l.readChar.inside = l.inside := rfl
@[simp] theorem readChar_ch (l : LX) : l.readChar.ch = l.input.getD l.rp 0 := rfl

theorem cur_wf (a : Array UInt8) (p : Nat) (i : Bool) : (cur a p i).WF := ⟨rfl, rfl, rfl, rfl⟩

theorem WF.eq_cur {l : LX} (w : l.WF) : l = cur l.input l.pos l.inside := by
  obtain ⟨a, p, r, c, i, ln, cr⟩ := l
  obtain ⟨h1, h2, h3, h4⟩ := w
  simp only at h1 h2 h3 h4
  subst h1 h2 h3 h4
  rfl

theorem WF.exists_cur {l : LX} (w : l.WF) : ∃ a p i, l = cur a p i := ⟨_, _, _, w.eq_cur⟩

@[simp] theorem cur_input : (cur a p i).input = a := rfl
@[simp] theorem cur_pos : (cur a p i).pos = p := rfl
@[simp] theorem cur_ch : (cur a p i).ch = a.getD p 0 := rfl
@[simp] theorem cur_inside : (cur a p i).inside = i := rfl
@[simp] theorem cur_peekChar : (cur a p i).peekChar = a.getD (p + 1) 0 := rfl
@[simp] theorem cur_peekCharAt (n : Nat) : (cur a p i).peekCharAt n = a.getD (p + n) 0 := rfl
@[simp] theorem cur_setInside (v : Bool) : { cur a p i with inside := v } = cur a p v := rfl

@[simp] theorem readChar_cur : (cur a p i).readChar = cur a (p + 1) i := by
  by_cases h : (a.getD (p + 1) 0 == 10) = true <;> simp only [readChar, cur, countLF, h, ↓reduceIte] <;> rfl

theorem wf_setInside {l : LX} (w : l.WF) (v : Bool) : ({ l with inside := v } : LX).WF := ⟨w.rp, w.ch, w.nc, w.ln⟩

theorem readChar_wf {l : LX} (w : l.WF) : l.readChar.WF := by
  obtain ⟨a, p, i, rfl⟩ := w.exists_cur; exact readChar_cur ▸ cur_wf _ _ _

theorem Adv.cur (a : Array UInt8) {e : Nat} (i j : Bool) (h : p ≤ e) : Adv (cur a p i) (cur a e j) := ⟨cur_wf _ _ _, rfl, h⟩
theorem Adv.refl {l : LX} (w : l.WF) : Adv l l := ⟨w, rfl, Nat.le_refl _⟩
theorem Adv.trans {l m k : LX} (h1 : Adv l m) (h2 : Adv m k) : Adv l k :=
  ⟨h2.wf, h2.input.trans h1.input, Nat.le_trans h1.pos h2.pos⟩
theorem Adv.readChar {l : LX} (w : l.WF) : Adv l l.readChar :=
  ⟨readChar_wf w, rfl, by rw [readChar_pos, w.rp]; exact Nat.le_succ _⟩

theorem new_eq_cur (a : Array UInt8) : LX.new a = cur a 0 false := by
  by_cases h : (a.getD 0 0 == 10) = true <;> simp only [LX.new, readChar, cur, countLF, h, ↓reduceIte] <;> rfl

theorem new_wf (input : Array UInt8) : (LX.new input).WF := new_eq_cur input ▸ cur_wf _ _ _

theorem getD_zero_of_ge (a : Array UInt8) (i : Nat) (h : a.size ≤ i) : a.getD i 0 = 0 := by
  simp [Array.getD, Nat.not_lt.mpr h]

theorem getD_ne_zero_lt {k : Nat} (h : a.getD k 0 ≠ 0) : k < a.size :=
  Nat.lt_of_not_ge fun hge => h (getD_zero_of_ge a k hge)

theorem WF.lt_of_ne {l : LX} (w : l.WF) (h : l.ch ≠ 0) : l.pos < l.input.size := getD_ne_zero_lt (w.ch ▸ h)
theorem WF.ch_zero {l : LX} (w : l.WF) (h : l.input.size ≤ l.pos) : l.ch = 0 := w.ch ▸ getD_zero_of_ge _ _ h
theorem readChar_pos' {l : LX} (w : l.WF) : l.readChar.pos = l.pos + 1 := w.rp
theorem peekChar_eq {l : LX} (w : l.WF) : l.peekChar = l.input.getD (l.pos + 1) 0 := by rw [peekChar, w.rp]
theorem peekCharAt_eq (l : LX) (n : Nat) : l.peekCharAt n = l.input.getD (l.pos + n) 0 := rfl

theorem slice_cur {s e : Nat} (h1 : s ≤ e) (h2 : e ≤ a.size) :
    (cur a p i).slice s e = ((a.extract s e).toList, cur a p i) := by
  simp [slice, h1, h2]

structure View (a : Array UInt8) (p : Nat) (a' : Array UInt8) (p' : Nat) : Prop where
  get : ∀ k, a.getD (p + k) 0 = a'.getD (p' + k) 0
  /-- carries a bound `n ≤ a.size - p` over to `a'`; `get` alone cannot tell a NUL byte from the end of the input -/
  rem : a.size - p = a'.size - p'

theorem View.refl (a : Array UInt8) (p : Nat) : View a p a p := ⟨fun _ => rfl, rfl⟩

theorem View.get0 (h : View a p a' p') : a.getD p 0 = a'.getD p' 0 := h.get 0

theorem View.shift (h : View a p a' p') (n : Nat) : View a (p + n) a' (p' + n) :=
  ⟨fun k => by rw [Nat.add_assoc, Nat.add_assoc]; exact h.get (n + k), by rw [Nat.sub_add_eq, Nat.sub_add_eq, h.rem]⟩

theorem countLF_mono (a : Array UInt8) {m n : Nat} (h : m ≤ n) : countLF a m ≤ countLF a n := by
  induction h with
  | refl => exact Nat.le_refl _
  | step _ ih => simp only [countLF]; omega

/-- `countLF a (p + n) - countLF a p = countLF a' (p' + n) - countLF a' p'`, without truncated subtraction -/
theorem countLF_window (hv : View a p a' p') : ∀ n, countLF a (p + n) + countLF a' p' = countLF a' (p' + n) + countLF a p := by
  intro n
  induction n with
  | zero => exact Nat.add_comm _ _
  | succ n ih =>
    show countLF a (p + n + 1) + _ = countLF a' (p' + n + 1) + _
    simp only [countLF, hv.get n]; omega

theorem extract_eq (a a' : Array UInt8) (i i' n : Nat) (hv : ∀ k, a.getD (i + k) 0 = a'.getD (i' + k) 0)
    (h : i + n ≤ a.size) (h' : i' + n ≤ a'.size) :
    (a.extract i (i + n)).toList = (a'.extract i' (i' + n)).toList := by
  apply List.ext_getElem
  · simp; omega
  · intro k h1 h2
    have hk : k < n := by simp at h1; omega
    simp only [Array.getElem_toList, Array.getElem_extract]
    have := hv k
    simp only [Array.getD, show i + k < a.size by omega, show i' + k < a'.size by omega, dite_true] at this
    exact this

theorem exists_first {P : Nat → Prop} [DecidablePred P] : ∀ (n p : Nat), P (p + n) →
    ∃ m, m ≤ n ∧ P (p + m) ∧ ∀ j, j < m → ¬ P (p + j) := by
  intro n
  induction n with
  | zero => intro p h; exact ⟨0, Nat.le_refl _, h, fun j hj => absurd hj (Nat.not_lt_zero j)⟩
  | succ n ih =>
    intro p h
    have e : ∀ k, p + (k + 1) = p + 1 + k := fun k => by omega
    by_cases h0 : P p
    · exact ⟨0, Nat.zero_le _, h0, fun j hj => absurd hj (Nat.not_lt_zero j)⟩
    · obtain ⟨m, hm, hP, hlt⟩ := ih (p + 1) (e n ▸ h)
      refine ⟨m + 1, Nat.succ_le_succ hm, e m ▸ hP, fun j hj => ?_⟩
      cases j with
      | zero => exact h0
      | succ j => exact e j ▸ hlt j (Nat.lt_of_succ_lt_succ hj)

theorem readWhile_cur (q : UInt8 → Bool) : ∀ (fuel p n : Nat), n < fuel →
    (∀ j, j < n → q (a.getD (p + j) 0) = true) → q (a.getD (p + n) 0) = false →
    readWhile q fuel (cur a p i) = cur a (p + n) i := by
  intro fuel
  induction fuel with
  | zero => intro p n h; omega
  | succ f ih =>
    intro p n hf hin hout
    rw [readWhile, cur_ch]
    cases n with
    | zero => rw [Nat.add_zero] at hout ⊢; simp only [hout, Bool.false_eq_true, ↓reduceIte]
    | succ n =>
      have e : ∀ k, p + (k + 1) = p + 1 + k := fun k => by omega
      have h0 := hin 0 (Nat.succ_pos n)
      rw [Nat.add_zero] at h0
      simp only [h0, ↓reduceIte, readChar_cur]
      rw [e n] at hout ⊢
      exact ih (p + 1) n (by omega) (fun j hj => by have := hin (j + 1) (by omega); rwa [e] at this) hout

theorem readWhile_scan (q : UInt8 → Bool) (hq : q 0 = false) (hv : View a p a' p') (hf : a.size - p < f)
    (hf' : a'.size - p' < f') :
    ∃ n, readWhile q f (cur a p i) = cur a (p + n) i ∧ readWhile q f' (cur a' p' i) = cur a' (p' + n) i
      ∧ n ≤ a.size - p ∧ (∀ j, j < n → q (a.getD (p + j) 0) = true) ∧ q (a.getD (p + n) 0) = false := by
  obtain ⟨n, h1, h2, h3⟩ := exists_first (P := fun k => q (a.getD k 0) = false) (a.size - p) p
    (by rw [getD_zero_of_ge _ _ (by omega)]; exact hq)
  have hr := hv.rem
  have h3 : ∀ j, j < n → q (a.getD (p + j) 0) = true := fun j hj => by simpa using h3 j hj
  exact ⟨n, readWhile_cur q f p n (by omega) h3 h2,
    readWhile_cur q f' p' n (by omega) (fun j hj => by rw [← hv.get]; exact h3 j hj) (by rw [← hv.get]; exact h2), h1, h3, h2⟩

theorem skipWhitespace_id (l : LX) (h : Gen.isWhitespace l.ch = false) : l.skipWhitespace = l := by
  simp only [skipWhitespace, skipWsLoop, h, Bool.false_eq_true, if_false]

theorem skipWsLoop_eq (fuel : Nat) (l : LX) : skipWsLoop fuel l = readWhile Gen.isWhitespace fuel l := by
  induction fuel generalizing l with
  | zero => rfl
  | succ n ih => simp only [skipWsLoop, readWhile, ih]

theorem skipWhitespace_scan (hv : View a p a' p') :
    ∃ n, (cur a p i).skipWhitespace = cur a (p + n) i ∧ (cur a' p' i).skipWhitespace = cur a' (p' + n) i
      ∧ n ≤ a.size - p ∧ (∀ j, j < n → Gen.isWhitespace (a.getD (p + j) 0) = true)
      ∧ Gen.isWhitespace (a.getD (p + n) 0) = false := by
  simp only [skipWhitespace, skipWsLoop_eq, cur_input]
  exact readWhile_scan _ (by decide) hv (by omega) (by omega)

/-- stated on the common unfolding of `readIdentifier` and `readNumber` -/
theorem readClass_scan (q : UInt8 → Bool) (hq : q 0 = false) (hv : View a p a' p') (hp : p < a.size) :
    ∃ n lit, (readWhile q (a.size + 2) (cur a p i)).slice p (readWhile q (a.size + 2) (cur a p i)).pos = (lit, cur a (p + n) i)
      ∧ (readWhile q (a'.size + 2) (cur a' p' i)).slice p' (readWhile q (a'.size + 2) (cur a' p' i)).pos = (lit, cur a' (p' + n) i)
      ∧ n ≤ a.size - p ∧ (q (a.getD p 0) = true → 0 < n) := by
  have hr := hv.rem
  obtain ⟨n, h, h', hn, -, hout⟩ := readWhile_scan (i := i) q hq hv (by omega : a.size - p < a.size + 2)
    (by omega : a'.size - p' < a'.size + 2)
  refine ⟨n, (a.extract p (p + n)).toList, ?_, ?_, hn, fun hl => ?_⟩
  · rw [h, cur_pos]; exact slice_cur (by omega) (by omega)
  · rw [h', cur_pos, slice_cur (by omega) (by omega), extract_eq a a' p p' n hv.get (by omega) (by omega)]
  · cases n with
    | zero => rw [Nat.add_zero, hl] at hout; exact Bool.noConfusion hout
    | succ n => exact Nat.succ_pos n

theorem readIdentifier_scan (hv : View a p a' p') (hp : p < a.size) :
    ∃ n lit, (cur a p i).readIdentifier = (lit, cur a (p + n) i) ∧ (cur a' p' i).readIdentifier = (lit, cur a' (p' + n) i)
      ∧ n ≤ a.size - p ∧ ((Gen.isLetter (a.getD p 0) || Gen.isDigit (a.getD p 0)) = true → 0 < n) :=
  readClass_scan _ (by decide) hv hp

theorem readNumber_scan (hv : View a p a' p') (hp : p < a.size) :
    ∃ n lit, (cur a p i).readNumber = (lit, cur a (p + n) i) ∧ (cur a' p' i).readNumber = (lit, cur a' (p' + n) i)
      ∧ n ≤ a.size - p ∧ ((Gen.isDigit (a.getD p 0) || Gen.isDot (a.getD p 0)) = true → 0 < n) :=
  readClass_scan _ (by decide) hv hp

/-- `for l.ch != 0 { l.readChar(); if stop(l.ch) { break } }`: the back-quote loop and the comment loop -/
def scanTo (stop : UInt8 → Bool) : Nat → LX → LX
  | 0, l => l
  | fuel+1, l => if l.ch != 0 then (if stop l.readChar.ch then l.readChar else scanTo stop fuel l.readChar) else l

theorem readBStringLoop_eq (fuel : Nat) (l : LX) : readBStringLoop fuel l = scanTo (· == 96) fuel l := by
  induction fuel generalizing l with
  | zero => rfl
  | succ n ih => simp only [readBStringLoop, scanTo, ih]

theorem skipLineComment_eq (fuel : Nat) (l : LX) : skipLineComment fuel l = scanTo (fun c => c == 10 || c == 13) fuel l := by
  induction fuel generalizing l with
  | zero => rfl
  | succ n ih => simp only [skipLineComment, scanTo, ih]

theorem scanTo_zero (stop : UInt8 → Bool) (fuel : Nat) (h : a.getD p 0 = 0) : scanTo stop fuel (cur a p i) = cur a p i := by
  cases fuel with
  | zero => rfl
  | succ f => simp only [scanTo, cur_ch, h, bne_self_eq_false, Bool.false_eq_true, ↓reduceIte]

theorem scanTo_cur (stop : UInt8 → Bool) : ∀ (fuel p n : Nat), n + 1 < fuel → a.getD p 0 ≠ 0 →
    (∀ j, j < n → ¬ (stop (a.getD (p + 1 + j) 0) = true ∨ a.getD (p + 1 + j) 0 = 0)) →
    (stop (a.getD (p + 1 + n) 0) = true ∨ a.getD (p + 1 + n) 0 = 0) →
    scanTo stop fuel (cur a p i) = cur a (p + 1 + n) i := by
  intro fuel
  induction fuel with
  | zero => intro p n h; omega
  | succ f ih =>
    intro p n hf h0 hin hout
    simp only [scanTo, cur_ch, readChar_cur, bne_iff_ne, ne_eq, h0, not_false_eq_true, ↓reduceIte]
    cases n with
    | zero =>
      rw [Nat.add_zero] at hout ⊢
      by_cases hs : stop (a.getD (p + 1) 0) = true
      · simp only [hs, ↓reduceIte]
      · simp only [hs, Bool.false_eq_true, ↓reduceIte]; exact scanTo_zero stop f (hout.resolve_left hs)
    | succ n =>
      have h1 := hin 0 (Nat.succ_pos n)
      simp only [Nat.add_zero, not_or, Bool.not_eq_true] at h1
      simp only [h1.1, Bool.false_eq_true, ↓reduceIte]
      have e : ∀ k, p + 1 + (k + 1) = p + 1 + 1 + k := fun k => by omega
      rw [e] at hout ⊢
      exact ih (p + 1) n (by omega) h1.2 (fun j hj => by have := hin (j + 1) (by omega); rwa [e] at this) hout

theorem scanTo_scan (stop : UInt8 → Bool) (hv : View a p a' p') (hf : a.size - p < f) (hf' : a'.size - p' < f') :
    ∃ n, scanTo stop f (cur a p i) = cur a (p + n) i ∧ scanTo stop f' (cur a' p' i) = cur a' (p' + n) i
      ∧ n ≤ a.size - p ∧ (a.getD p 0 ≠ 0 → 0 < n) ∧ (a.getD (p + n) 0 = 0 ∨ stop (a.getD (p + n) 0) = true) := by
  have hr := hv.rem
  by_cases h0 : a.getD p 0 = 0
  · exact ⟨0, scanTo_zero stop f h0, scanTo_zero stop f' (hv.get0 ▸ h0), Nat.zero_le _, fun h => absurd h0 h, Or.inl h0⟩
  · have hlt := getD_ne_zero_lt h0
    obtain ⟨m, h1, h2, h3⟩ := exists_first (P := fun k => stop (a.getD k 0) = true ∨ a.getD k 0 = 0) (a.size - (p + 1)) (p + 1)
      (Or.inr (getD_zero_of_ge _ _ (by omega)))
    have e : ∀ k, a'.getD (p' + 1 + k) 0 = a.getD (p + 1 + k) 0 := fun k => ((hv.shift 1).get k).symm
    refine ⟨1 + m, ?_, ?_, by omega, fun _ => by omega, by rw [← Nat.add_assoc]; exact h2.symm⟩ <;> rw [← Nat.add_assoc]
    · exact scanTo_cur stop f p m (by omega) h0 h3 h2
    · exact scanTo_cur stop f' p' m (by omega) (hv.get0 ▸ h0) (fun j hj => by rw [e]; exact h3 j hj) (by rw [e]; exact h2)

theorem skipQuoteEscapes_cur : ∀ (m fuel p : Nat), m < fuel →
    (∀ j, j < m → a.getD (p + 2 * j) 0 = 92 ∧ a.getD (p + 2 * j + 1) 0 = 34) →
    ¬ (a.getD (p + 2 * m) 0 = 92 ∧ a.getD (p + 2 * m + 1) 0 = 34) →
    skipQuoteEscapes fuel (cur a p i) = cur a (p + 2 * m) i := by
  intro m
  induction m with
  | zero =>
    intro fuel p hf _ hstop
    obtain ⟨n, rfl⟩ : ∃ n, fuel = n + 1 := ⟨fuel - 1, by omega⟩
    have : (a.getD p 0 == 92 && a.getD (p + 1) 0 == 34) = false := by simpa using hstop
    simp only [skipQuoteEscapes, cur_ch, cur_peekChar, this, Bool.false_eq_true, ↓reduceIte, Nat.mul_zero, Nat.add_zero]
  | succ m ih =>
    intro fuel p hf hrun hstop
    obtain ⟨n, rfl⟩ : ∃ n, fuel = n + 1 := ⟨fuel - 1, by omega⟩
    have : (a.getD p 0 == 92 && a.getD (p + 1) 0 == 34) = true := by simpa using hrun 0 (by omega)
    simp only [skipQuoteEscapes, cur_ch, cur_peekChar, this, ↓reduceIte, readChar_cur]
    have e : ∀ k, p + 2 * (k + 1) = p + 1 + 1 + 2 * k := fun k => by omega
    rw [e] at hstop ⊢
    exact ih n (p + 1 + 1) (by omega) (fun j hj => by have := hrun (j + 1) (by omega); rwa [e] at this) hstop

theorem skipQuoteEscapes_scan (hv : View a p a' p') (hf : a.size - p < f) (hf' : a'.size - p' < f') :
    ∃ n, skipQuoteEscapes f (cur a p i) = cur a (p + n) i ∧ skipQuoteEscapes f' (cur a' p' i) = cur a' (p' + n) i
      ∧ n ≤ a.size - p ∧ ¬ (a.getD (p + n) 0 = 92 ∧ a.getD (p + n + 1) 0 = 34) := by
  have hr := hv.rem
  obtain ⟨m, h1, h2, h3⟩ := exists_first (P := fun k => ¬ (a.getD (p + 2 * k) 0 = 92 ∧ a.getD (p + 2 * k + 1) 0 = 34)) (a.size - p) 0
    (fun h => by have := getD_ne_zero_lt (a := a) (k := p + 2 * (0 + (a.size - p)) + 1) (by rw [h.2]; decide); omega)
  simp only [Nat.zero_add, Classical.not_not] at h2 h3
  have hb : 2 * m ≤ a.size - p := by
    cases m with
    | zero => omega
    | succ k => have := getD_ne_zero_lt (a := a) (k := p + 2 * k + 1) (by rw [(h3 k (by omega)).2]; decide); omega
  have e : ∀ k, a'.getD (p' + k) 0 = a.getD (p + k) 0 := fun k => (hv.get k).symm
  exact ⟨2 * m, skipQuoteEscapes_cur m f p (by omega) h3 h2,
    skipQuoteEscapes_cur m f' p' (by omega) (fun j hj => by rw [Nat.add_assoc, e, e, ← Nat.add_assoc]; exact h3 j hj)
      (by rw [Nat.add_assoc, e, e, ← Nat.add_assoc]; exact h2), hb, h2⟩

theorem readStringLoop_scan : ∀ (f f' p p' : Nat), View a p a' p' → a.size - p < f → a'.size - p' < f' →
    ∃ n, readStringLoop f (cur a p i) = cur a (p + n) i ∧ readStringLoop f' (cur a' p' i) = cur a' (p' + n) i
      ∧ n ≤ a.size - p ∧ (a.getD p 0 ≠ 0 → 0 < n) ∧ (a.getD (p + n) 0 = 0 ∨ a.getD (p + n) 0 = 34) := by
  intro f
  induction f with
  | zero => intro f' p p' _ h; omega
  | succ f ih =>
    intro f' p p' hv hf hf'
    obtain ⟨f', rfl⟩ : ∃ n, f' = n + 1 := ⟨f' - 1, by omega⟩
    have hr := hv.rem
    simp only [readStringLoop, cur_ch, readChar_cur, cur_input]
    rw [← hv.get0]
    by_cases h0 : a.getD p 0 = 0
    · simp only [h0, bne_self_eq_false, Bool.false_eq_true, ↓reduceIte]
      exact ⟨0, rfl, rfl, Nat.zero_le _, fun h => absurd rfl h, Or.inl h0⟩
    · have hlt := getD_ne_zero_lt h0
      obtain ⟨m, e1, e2, hm, -⟩ := skipQuoteEscapes_scan (i := i) (hv.shift 1) (by omega : a.size - (p + 1) < a.size + 2)
        (by omega : a'.size - (p' + 1) < a'.size + 2)
      simp only [bne_iff_ne, ne_eq, h0, not_false_eq_true, ↓reduceIte, e1, e2, cur_ch]
      rw [← ((hv.shift 1).shift m).get0]
      by_cases hq : (a.getD (p + 1 + m) 0 == 34) = true
      · simp only [hq, ↓reduceIte]
        exact ⟨1 + m, by rw [Nat.add_assoc], by rw [Nat.add_assoc], by omega, fun _ => by omega,
          Or.inr (by rw [← Nat.add_assoc]; exact eq_of_beq hq)⟩
      · simp only [hq, Bool.false_eq_true, ↓reduceIte]
        obtain ⟨n, h1, h2, hn, -, hex⟩ := ih f' (p + 1 + m) (p' + 1 + m) ((hv.shift 1).shift m) (by omega) (by omega)
        exact ⟨1 + m + n, by rw [h1]; simp only [Nat.add_assoc], by rw [h2]; simp only [Nat.add_assoc], by omega, fun _ => by omega,
          by simpa only [Nat.add_assoc] using hex⟩

theorem quoted_scan {l l' : LX} {n : Nat} (hv : View a p a' p') (e : l = cur a (p + n) i)
    (e' : l' = cur a' (p' + n) i) (hn : n ≤ a.size - p) (hpos : 0 < n) :
    ∃ lit, l.slice (p + 1) l.pos = (lit, cur a (p + n) i) ∧ l'.slice (p' + 1) l'.pos = (lit, cur a' (p' + n) i) := by
  have hr := hv.rem
  subst e e'
  refine ⟨(a.extract (p + 1) (p + n)).toList, ?_, ?_⟩
  · rw [cur_pos, slice_cur (by omega) (by omega)]
  · rw [cur_pos, slice_cur (by omega) (by omega)]
    have := extract_eq a a' (p + 1) (p' + 1) (n - 1) (hv.shift 1).get (by omega) (by omega)
    rw [show p + 1 + (n - 1) = p + n by omega, show p' + 1 + (n - 1) = p' + n by omega] at this; rw [this]

theorem readString_scan (hv : View a p a' p') (h0 : a.getD p 0 ≠ 0) :
    ∃ n lit, (cur a p i).readString = (lit, cur a (p + n) i) ∧ (cur a' p' i).readString = (lit, cur a' (p' + n) i)
      ∧ 0 < n := by
  have hr := hv.rem
  obtain ⟨n, h, h', hn, hpos, -⟩ := readStringLoop_scan (i := i) (a.size + 2) (a'.size + 2) p p' hv (by omega) (by omega)
  obtain ⟨lit, e, e'⟩ := quoted_scan hv h h' hn (hpos h0)
  exact ⟨n, replaceAll [92, 34] [34] lit, by simp only [readString, cur_input, cur_pos, e],
    by simp only [readString, cur_input, cur_pos, e'], hpos h0⟩

theorem readBString_scan (hv : View a p a' p') (h0 : a.getD p 0 ≠ 0) :
    ∃ n lit, (cur a p i).readBString = (lit, cur a (p + n) i) ∧ (cur a' p' i).readBString = (lit, cur a' (p' + n) i)
      ∧ 0 < n := by
  have hr := hv.rem
  obtain ⟨n, h, h', hn, hpos, -⟩ := scanTo_scan (i := i) (· == 96) hv (by omega : a.size - p < a.size + 2)
    (by omega : a'.size - p' < a'.size + 2)
  simp only [readBString, readBStringLoop_eq, cur_input, cur_pos]
  obtain ⟨lit, e, e'⟩ := quoted_scan hv h h' hn (hpos h0)
  exact ⟨n, lit, e, e', hpos h0⟩

end LX
end Plush
