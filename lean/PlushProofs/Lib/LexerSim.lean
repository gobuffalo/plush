import PlushProofs.Lib.LexerCore
/-!
  `NextToken` inside a tag: skip layout (`Layout`: blanks and `#` comments), then take one token from the branch
  table, which is `nextInsideToken 1` on a state standing on the token's first byte (`AtStart`).  Both halves
  depend only on the bytes from the cursor on.  From that: suffix determinism (`Sim`; C18, DESIGN §13.6), layout
  insignificance, and the line a token is stamped with (C15).
-/
namespace Plush
namespace LX

structure Sim (l l' : LX) : Prop where
  wf : l.WF
  wf' : l'.WF
  view : ∀ k, l.input.getD (l.pos + k) 0 = l'.input.getD (l'.pos + k) 0
  inside : l.inside = l'.inside
  rem : l.input.size - l.pos = l'.input.size - l'.pos

def TokSim (r r' : Token × LX) : Prop := r.1.type = r'.1.type ∧ r.1.lit = r'.1.lit ∧ Sim r.2 r'.2

/-- the position on which `nextInsideToken` reads its token: its recursion, without the branch table -/
def tokStart : Nat → LX → Nat
  | 0, l => l.pos
  | f+1, l =>
    let l1 := l.skipWhitespace
    if l1.ch == 35 then tokStart f (skipLineComment (l1.input.size + 2) l1) else l1.pos

inductive Layout : LX → LX → Prop
  | here (l : LX) : Layout l l
  | ws (l m : LX) : Gen.isWhitespace l.ch = true → Layout l.readChar m → Layout l m
  | comment (l m : LX) : l.ch = 35 → Layout (skipLineComment (l.input.size + 2) l) m → Layout l m

variable {a a' : Array UInt8} {p p' : Nat} {i : Bool} {l l' m : LX} {r r' : Token × LX}

theorem Sim.cur (hv : View a p a' p') (i : Bool) : Sim (cur a p i) (cur a' p' i) :=
  ⟨cur_wf _ _ _, cur_wf _ _ _, hv.get, rfl, hv.rem⟩

theorem Sim.toView (h : Sim l l') : View l.input l.pos l'.input l'.pos := ⟨h.view, h.rem⟩

theorem Sim.exists_cur (h : Sim l l') : ∃ a p a' p' i, l = LX.cur a p i ∧ l' = LX.cur a' p' i ∧ View a p a' p' :=
  ⟨_, _, _, _, _, h.wf.eq_cur, by rw [h.inside]; exact h.wf'.eq_cur, h.toView⟩

theorem Sim.refl (w : l.WF) : Sim l l := ⟨w, w, fun _ => rfl, rfl, rfl⟩

def AtStart (l : LX) : Prop := Gen.isWhitespace l.ch = false ∧ (l.ch == 35) = false

theorem nextInsideToken_succ (f : Nat) (l : LX) (hid : Gen.isWhitespace l.skipWhitespace.ch = false) :
    nextInsideToken (f + 1) l =
      if l.skipWhitespace.ch == 35 then nextInsideToken f (skipLineComment (l.skipWhitespace.input.size + 2) l.skipWhitespace)
      else nextInsideToken 1 l.skipWhitespace := by
  by_cases h : (l.skipWhitespace.ch == 35) = true
  · rw [nextInsideToken]; simp only [h, if_true]
  · rw [nextInsideToken, nextInsideToken]; simp only [skipWhitespace_id _ hid, h, Bool.false_eq_true, if_false]

theorem tokStart_succ (f : Nat) (l : LX) :
    tokStart (f + 1) l =
      if l.skipWhitespace.ch == 35 then tokStart f (skipLineComment (l.skipWhitespace.input.size + 2) l.skipWhitespace)
      else l.skipWhitespace.pos := rfl

theorem Layout.trans {k : LX} (h1 : Layout l m) (h2 : Layout m k) : Layout l k := by
  induction h1 with
  | here => exact h2
  | ws l m hws _ ih => exact .ws _ _ hws (ih h2)
  | comment l m hc _ ih => exact .comment _ _ hc (ih h2)

theorem Layout.wsRun : ∀ (n p : Nat), (∀ j, j < n → Gen.isWhitespace (a.getD (p + j) 0) = true) →
    Layout (cur a (p + n) i) m → Layout (cur a p i) m := by
  intro n
  induction n with
  | zero => intro p _ h; exact h
  | succ n ih =>
    intro p hws h
    have e : ∀ k, p + (k + 1) = p + 1 + k := fun k => by omega
    refine .ws _ _ (hws 0 (Nat.succ_pos n)) ?_
    rw [readChar_cur]
    exact ih (p + 1) (fun j hj => e j ▸ hws (j + 1) (Nat.succ_lt_succ hj)) (e n ▸ h)

theorem comment_scan (hv : View a p a' p') (hc : a.getD p 0 = 35) :
    ∃ n, skipLineComment (a.size + 2) (cur a p i) = cur a (p + n) i
      ∧ skipLineComment (a'.size + 2) (cur a' p' i) = cur a' (p' + n) i ∧ n ≤ a.size - p ∧ 0 < n := by
  have hr := hv.rem
  have hne : a.getD p 0 ≠ 0 := by rw [hc]; decide
  have hlt := getD_ne_zero_lt hne
  obtain ⟨n, e, e', hn, hpos, -⟩ := scanTo_scan (i := i) (fun c => c == 10 || c == 13) hv
    (by omega : a.size - p < a.size + 2) (by omega : a'.size - p' < a'.size + 2)
  exact ⟨n, (skipLineComment_eq _ _).trans e, (skipLineComment_eq _ _).trans e', hn, hpos hne⟩

theorem layout_scan : ∀ (d p p' : Nat), a.size - p ≤ d → View a p a' p' →
    ∃ k, Layout (cur a p i) (cur a (p + k) i) ∧ Layout (cur a' p' i) (cur a' (p' + k) i) ∧ (cur a (p + k) i).AtStart := by
  intro d
  induction d with
  | zero =>
    intro p p' hd hv
    have h0 : a.getD p 0 = 0 := getD_zero_of_ge _ _ (by omega)
    exact ⟨0, .here _, .here _, by simp only [AtStart, Nat.add_zero, cur_ch, h0]; decide⟩
  | succ d ih =>
    intro p p' hd hv
    obtain ⟨n, -, -, hn, hws, hstop⟩ := skipWhitespace_scan (i := i) hv
    have hws' : ∀ j, j < n → Gen.isWhitespace (a'.getD (p' + j) 0) = true := fun j hj => hv.get j ▸ hws j hj
    by_cases hc : a.getD (p + n) 0 = 35
    · obtain ⟨m, e1, e2, hm, hpos⟩ := comment_scan (i := i) (hv.shift n) hc
      obtain ⟨k, l1, l2, hk⟩ := ih (p + n + m) (p' + n + m) (by omega) ((hv.shift n).shift m)
      simp only [Nat.add_assoc] at l1 l2 hk e1 e2
      exact ⟨n + (m + k), Layout.wsRun n p hws (.comment _ _ hc (e1 ▸ l1)),
        Layout.wsRun n p' hws' (.comment _ _ (((hv.shift n).get0).symm.trans hc) (e2 ▸ l2)), hk⟩
    · exact ⟨n, Layout.wsRun n p hws (.here _), Layout.wsRun n p' hws' (.here _), hstop, by simpa using hc⟩

theorem Layout.nextInsideToken_eq (h : Layout l m) (hm : m.AtStart) : ∀ (f : Nat), l.WF → l.input.size - l.pos < f →
    nextInsideToken f l = nextInsideToken 1 m ∧ tokStart f l = m.pos := by
  induction h with
  | here l =>
    intro f _ hf
    obtain ⟨f, rfl⟩ : ∃ n, f = n + 1 := ⟨f - 1, by omega⟩
    have hid := skipWhitespace_id l hm.1
    rw [nextInsideToken_succ f l (by rw [hid]; exact hm.1), tokStart_succ, hid]
    simp only [hm.2, Bool.false_eq_true, if_false, and_self]
  | ws l m hws _ ih =>
    intro f w hf
    obtain ⟨f, rfl⟩ : ∃ n, f = n + 1 := ⟨f - 1, by omega⟩
    obtain ⟨a, p, i, rfl⟩ := w.exists_cur
    simp only [cur_ch, cur_input, cur_pos, readChar_cur] at hws hf ih
    have hlt := getD_ne_zero_lt (a := a) (k := p) (by intro h0; rw [h0] at hws; exact absurd hws (by decide))
    obtain ⟨n, e1, -, hn, hin, hout⟩ := skipWhitespace_scan (i := i) (View.refl a p)
    obtain ⟨n, rfl⟩ : ∃ k, n = k + 1 := ⟨n - 1, by cases n with
      | zero => rw [Nat.add_zero, hws] at hout; exact Bool.noConfusion hout
      | succ k => omega⟩
    have e : ∀ k, p + (k + 1) = p + 1 + k := fun k => by omega
    have e2 : (cur a (p + 1) i).skipWhitespace = cur a (p + 1 + n) i := by
      simp only [skipWhitespace, skipWsLoop_eq, cur_input]
      exact readWhile_cur _ _ (p + 1) n (by omega) (fun j hj => e j ▸ hin (j + 1) (by omega)) (e n ▸ hout)
    have := ih hm (f + 1) (cur_wf _ _ _) (by omega)
    rw [← this.1, ← this.2, nextInsideToken_succ f _ (by rw [e1]; exact hout), nextInsideToken_succ f _ (by rw [e2, ← e]; exact hout),
      tokStart_succ, tokStart_succ, e1, e2, e]
    exact ⟨rfl, rfl⟩
  | comment l m hc _ ih =>
    intro f w hf
    obtain ⟨f, rfl⟩ : ∃ n, f = n + 1 := ⟨f - 1, by omega⟩
    obtain ⟨a, p, i, rfl⟩ := w.exists_cur
    simp only [cur_ch, cur_input, cur_pos] at hc hf ih
    have hnw : Gen.isWhitespace (cur a p i).ch = false := by rw [cur_ch, hc]; decide
    have hid := skipWhitespace_id _ hnw
    obtain ⟨n, e1, -, hn, hpos⟩ := comment_scan (i := i) (View.refl a p) hc
    rw [e1] at ih
    rw [nextInsideToken_succ f _ (by rw [hid]; exact hnw), tokStart_succ, hid, cur_ch, hc, cur_input, e1]
    exact ih hm f (cur_wf _ _ _) (by simp only [cur_input, cur_pos]; omega)

theorem Layout.wf (h : Layout l m) (w : l.WF) : m.WF := by
  induction h with
  | here => exact w
  | ws l m _ _ ih => exact ih (readChar_wf w)
  | comment l m hc _ ih =>
    obtain ⟨a, p, i, rfl⟩ := w.exists_cur
    obtain ⟨n, e, -⟩ := comment_scan (i := i) (View.refl a p) hc
    exact ih (by rw [cur_input, e]; exact cur_wf _ _ _)

theorem Sim.ch (h : Sim l l') : l.ch = l'.ch := by
  obtain ⟨a, p, a', p', i, rfl, rfl, hv⟩ := h.exists_cur; exact hv.get0

theorem Sim.peek (h : Sim l l') : l.peekChar = l'.peekChar := by
  obtain ⟨a, p, a', p', i, rfl, rfl, hv⟩ := h.exists_cur; exact hv.get 1

theorem Sim.readChar {l l' : LX} (h : Sim l l') : Sim l.readChar l'.readChar := by
  obtain ⟨a, p, a', p', i, rfl, rfl, hv⟩ := h.exists_cur
  rw [readChar_cur, readChar_cur]; exact Sim.cur (hv.shift 1) i

theorem Sim.setInside (h : Sim l l') (v : Bool) : Sim { l with inside := v } { l' with inside := v } :=
  ⟨wf_setInside h.wf v, wf_setInside h.wf' v, h.view, rfl, h.rem⟩

/-- `TokSim` with the end states in closed form: the same token, and both scanners `n > 0` bytes further on.
    This is what each branch of the table gives (`token_scan`); `TokSim` follows by `Same.toksim`. -/
def Same (l l' : LX) (r r' : Token × LX) : Prop :=
  r.1.type = r'.1.type ∧ r.1.lit = r'.1.lit ∧
    ∃ n i, 0 < n ∧ r.2 = cur l.input (l.pos + n) i ∧ r'.2 = cur l'.input (l'.pos + n) i

theorem Same.toksim (hs : Sim l l') (h : Same l l' r r') : TokSim r r' := by
  obtain ⟨h1, h2, n, i, -, e, e'⟩ := h
  exact ⟨h1, h2, by rw [e, e']; exact Sim.cur (hs.toView.shift n) i⟩

theorem toksim_ite (c : Prop) [Decidable c] (a a' e e' : Token × LX)
    (h1 : c → TokSim a a') (h2 : ¬c → TokSim e e') : TokSim (if c then a else e) (if c then a' else e') := by
  by_cases h : c <;> simp [h, h1, h2]

theorem same_ite (c c' : Prop) [Decidable c] [Decidable c'] (x x' e e' : Token × LX) (hcc : c ↔ c')
    (h1 : c → Same l l' x x') (h2 : ¬c → Same l l' e e') : Same l l' (if c then x else e) (if c' then x' else e') := by
  by_cases h : c
  · rw [if_pos h, if_pos (hcc.mp h)]; exact h1 h
  · rw [if_neg h, if_neg (fun x => h (hcc.mpr x))]; exact h2 h

theorem same_reline (r r' : Token × LX) (x y : Nat) (h : Same l l' r r') :
    Same l l' ({ r.1 with line := x }, r.2) ({ r'.1 with line := y }, r'.2) := h

theorem same_finish (hs : Sim l l') (tok tok' : Token) (ht : tok.type = tok'.type) (hl : tok.lit = tok'.lit) :
    Same l l' (finish tok l) (finish tok' l') := by
  obtain ⟨a, p, a', p', i, rfl, rfl, hv⟩ := hs.exists_cur
  exact ⟨ht, hl, 1, i, Nat.one_pos, readChar_cur, readChar_cur⟩

theorem same_newToken (hs : Sim l l') (t : TT) : Same l l' (finish (l.newToken t) l) (finish (l'.newToken t) l') :=
  same_finish hs _ _ rfl (by simp only [newToken, hs.ch])

theorem same_two (hs : Sim l l') (t : TT) (s : String) : Same l l' (two l t s) (two l' t s) := by
  obtain ⟨a, p, a', p', i, rfl, rfl, hv⟩ := hs.exists_cur
  refine ⟨rfl, rfl, 2, i, by decide, ?_, ?_⟩ <;> show (LX.readChar (LX.readChar _)) = _ <;> rw [readChar_cur, readChar_cur] <;> rfl

theorem same_two_inside (hs : Sim l l') (v : Bool) (t : TT) (s : String) :
    Same l l' (two { l with inside := v } t s) (two { l' with inside := v } t s) :=
  same_two (hs.setInside v) t s

theorem same_open (hs : Sim l l')
    (h : Same ({ l with inside := true } : LX).readChar ({ l' with inside := true } : LX).readChar r r') : Same l l' r r' := by
  obtain ⟨a, p, a', p', i, rfl, rfl, hv⟩ := hs.exists_cur
  obtain ⟨h1, h2, n, j, hn, e, e'⟩ := h
  simp only [cur_input, cur_pos] at e e'
  exact ⟨h1, h2, 1 + n, j, by omega, by rw [e, ← Nat.add_assoc]; rfl, by rw [e', ← Nat.add_assoc]; rfl⟩

theorem same_open_two (hs : Sim l l') (t : TT) (s : String) :
    Same l l' (two ({ l with inside := true } : LX).readChar t s) (two ({ l' with inside := true } : LX).readChar t s) :=
  same_open hs (same_two (hs.setInside true).readChar t s)

theorem same_open_finish (hs : Sim l l') (tok tok' : Token) (ht : tok.type = tok'.type) (hl : tok.lit = tok'.lit) :
    Same l l' (finish tok ({ l with inside := true } : LX).readChar) (finish tok' ({ l' with inside := true } : LX).readChar) :=
  same_open hs (same_finish (hs.setInside true).readChar _ _ ht hl)

theorem same_lit (rd : LX → Bytes × LX) (t : TT) (x y : Nat)
    (h : ∃ n lit, rd (cur a p i) = (lit, cur a (p + n) i) ∧ rd (cur a' p' i) = (lit, cur a' (p' + n) i) ∧ 0 < n) :
    Same (cur a p i) (cur a' p' i) (finish { type := t, lit := (rd (cur a p i)).1, line := x } (rd (cur a p i)).2)
      (finish { type := t, lit := (rd (cur a' p' i)).1, line := y } (rd (cur a' p' i)).2) := by
  obtain ⟨n, lit, e, e', -⟩ := h
  rw [e, e']
  exact ⟨rfl, rfl, n + 1, i, Nat.succ_pos _, readChar_cur, readChar_cur⟩

theorem ne_zero_of_beq {c k : UInt8} (h : (c == k) = true) (hk : k ≠ 0) : c ≠ 0 := by
  rw [eq_of_beq h]; exact hk

theorem same_string (hs : Sim l l') (h : (l.ch == 34) = true) (t : TT) (x y : Nat) :
    Same l l' (finish { type := t, lit := l.readString.1, line := x } l.readString.2)
           (finish { type := t, lit := l'.readString.1, line := y } l'.readString.2) := by
  obtain ⟨a, p, a', p', i, rfl, rfl, hv⟩ := hs.exists_cur
  exact same_lit readString t x y (readString_scan hv (ne_zero_of_beq h (by decide)))

theorem same_bstring (hs : Sim l l') (h : (l.ch == 96) = true) (t : TT) (x y : Nat) :
    Same l l' (finish { type := t, lit := l.readBString.1, line := x } l.readBString.2)
           (finish { type := t, lit := l'.readBString.1, line := y } l'.readBString.2) := by
  obtain ⟨a, p, a', p', i, rfl, rfl, hv⟩ := hs.exists_cur
  exact same_lit readBString t x y (readBString_scan hv (ne_zero_of_beq h (by decide)))

theorem same_ident (hs : Sim l l') (h : Gen.isLetter l.ch = true) :
    Same l l' ({ type := lookupIdent l.readIdentifier.1, lit := l.readIdentifier.1, line := l.readIdentifier.2.line }, l.readIdentifier.2)
           ({ type := lookupIdent l'.readIdentifier.1, lit := l'.readIdentifier.1, line := l'.readIdentifier.2.line }, l'.readIdentifier.2) := by
  obtain ⟨a, p, a', p', i, rfl, rfl, hv⟩ := hs.exists_cur
  rw [cur_ch] at h
  obtain ⟨n, lit, e, e', -, hpos⟩ := readIdentifier_scan (i := i) hv
    (getD_ne_zero_lt fun h0 => by rw [h0] at h; exact absurd h (by decide))
  rw [e, e']
  exact ⟨rfl, rfl, n, i, hpos (by rw [h]; rfl), rfl, rfl⟩

theorem numberToken_type_lit (lit : Bytes) (x y : Nat) :
    (numberToken lit x).type = (numberToken lit y).type ∧ (numberToken lit x).lit = (numberToken lit y).lit := by
  simp only [numberToken]
  by_cases h1 : (splitOn1 46 lit).length > 2
  · simp [h1]
  · by_cases h2 : ((splitOn1 46 lit).length == 2) = true <;> simp [h1, h2]

theorem same_number (hs : Sim l l') (h : (Gen.isDigit l.ch || Gen.isDot l.ch) = true) :
    Same l l' (numberToken l.readNumber.1 l.readNumber.2.line, l.readNumber.2)
           (numberToken l'.readNumber.1 l'.readNumber.2.line, l'.readNumber.2) := by
  obtain ⟨a, p, a', p', i, rfl, rfl, hv⟩ := hs.exists_cur
  rw [cur_ch] at h
  obtain ⟨n, lit, e, e', -, hpos⟩ := readNumber_scan (i := i) hv
    (getD_ne_zero_lt fun h0 => by rw [h0] at h; exact absurd h (by decide))
  rw [e, e']
  exact ⟨(numberToken_type_lit _ _ _).1, (numberToken_type_lit _ _ _).2, n, i, hpos h, rfl, rfl⟩

theorem token_scan (hs : Sim l l') (h : l.AtStart) : Same l l' (nextInsideToken 1 l) (nextInsideToken 1 l') := by
  have h' : l'.AtStart := by unfold AtStart; rw [← hs.ch]; exact h
  unfold nextInsideToken
  simp only [skipWhitespace_id l h.1, skipWhitespace_id l' h'.1, h.2, h'.2, Bool.false_eq_true, if_false]
  apply same_reline
  have ech := hs.ch
  have epk := hs.peek
  have eopk := (hs.setInside true).readChar.peek
  -- down the chain of tests: at each `if` both sides test the same byte (`ech`, `epk`, `eopk`); one leaf lemma per
  -- shape of branch
  repeat' (first | (with_reducible apply same_ite) | intro _)
  all_goals (with_reducible first
    | (rw [ech]; done) | (rw [epk]; done) | (rw [eopk]; done)
    | exact same_newToken hs _ | exact same_two hs _ _ | exact same_two_inside hs _ _ _
    | exact same_open_two hs _ _ | exact same_open_finish hs _ _ rfl rfl
    | exact same_string hs ‹_› _ _ _ | exact same_bstring hs ‹_› _ _ _
    | exact same_ident hs ‹_›
    | exact same_number hs (by rw [Gen.isDot, ‹(l.ch == 46) = true›, Bool.or_true])
    | exact same_number hs (by rw [‹Gen.isDigit l.ch = true›, Bool.true_or])
    | exact same_finish hs _ _ rfl rfl)

theorem nextInsideToken_scan {f f' : Nat} (hs : Sim l l') (hf : l.input.size - l.pos < f) (hf' : l'.input.size - l'.pos < f') :
    ∃ k, (cur l.input (l.pos + k) l.inside).AtStart
      ∧ Layout l (cur l.input (l.pos + k) l.inside) ∧ Layout l' (cur l'.input (l'.pos + k) l'.inside)
      ∧ nextInsideToken f l = nextInsideToken 1 (cur l.input (l.pos + k) l.inside) ∧ tokStart f l = l.pos + k
      ∧ nextInsideToken f' l' = nextInsideToken 1 (cur l'.input (l'.pos + k) l'.inside) ∧ tokStart f' l' = l'.pos + k := by
  obtain ⟨a, p, a', p', i, rfl, rfl, hv⟩ := hs.exists_cur
  obtain ⟨k, h1, h2, hk⟩ := layout_scan (i := i) (a.size - p) p p' (Nat.le_refl _) hv
  have e := h1.nextInsideToken_eq hk f (cur_wf _ _ _) hf
  have e' := h2.nextInsideToken_eq (by unfold AtStart; rw [cur_ch, ← hv.get]; exact hk) f' (cur_wf _ _ _) hf'
  exact ⟨k, hk, h1, h2, e.1, e.2, e'.1, e'.2⟩

/-- `0 < n` also at the end of the input: the EOF branch goes through `finish`, and Go's `readChar` keeps incrementing
    `position` past `len(input)`. -/
theorem nextInsideToken_lands {f : Nat} (hf : a.size - p < f) :
    ∃ n j, (nextInsideToken f (cur a p i)).2 = cur a (p + n) j ∧ 0 < n := by
  obtain ⟨k, hk, -, -, e, -⟩ := nextInsideToken_scan (Sim.refl (cur_wf a p i)) hf hf
  obtain ⟨-, -, n, j, hn, e2, -⟩ := token_scan (Sim.refl (cur_wf _ _ _)) hk
  exact ⟨k + n, j, by rw [e, e2, ← Nat.add_assoc]; rfl, Nat.lt_of_lt_of_le hn (Nat.le_add_left n k)⟩

theorem nextInsideToken_spec (fuel : Nat) (l : LX) (w : l.WF) (hf : l.input.size - l.pos < fuel) :
    Adv l (nextInsideToken fuel l).2 ∧ l.pos < (nextInsideToken fuel l).2.pos := by
  obtain ⟨a, p, i, rfl⟩ := w.exists_cur
  obtain ⟨n, j, e, hn⟩ := nextInsideToken_lands (a := a) (p := p) (i := i) hf
  rw [e]
  exact ⟨Adv.cur a i j (Nat.le_add_right p n), Nat.lt_add_of_pos_right hn⟩

/-- Suffix determinism (C18): what lies behind the cursor — other bytes, another offset, another line number — does
    not matter to the token's type and text, nor to what the scanner sees afterwards. -/
theorem nextInsideToken_sim (f f' : Nat) (l l' : LX) (hs : Sim l l') (hf : l.input.size - l.pos < f)
    (hf' : l'.input.size - l'.pos < f') : TokSim (nextInsideToken f l) (nextInsideToken f' l') := by
  obtain ⟨k, hk, -, -, e, -, e', -⟩ := nextInsideToken_scan hs hf hf'
  have hs' : Sim (cur l.input (l.pos + k) l.inside) (cur l'.input (l'.pos + k) l'.inside) :=
    hs.inside ▸ Sim.cur (hs.toView.shift k) _
  rw [e, e']
  exact (token_scan hs' hk).toksim hs'

theorem nextInsideToken_one_line (h : l.AtStart) : (nextInsideToken 1 l).1.line = l.line := by
  rw [nextInsideToken]
  simp only [skipWhitespace_id l h.1, h.2, Bool.false_eq_true, ↓reduceIte]

/-- C15 (lexer): a token inside a tag carries the line on which it STARTS, however many lines the token itself or
    its look-ahead spans -/
theorem inside_token_line (fuel : Nat) (l : LX) (w : l.WF) (hf : l.input.size - l.pos < fuel) :
    (nextInsideToken fuel l).1.line = 1 + countLF l.input (tokStart fuel l) := by
  obtain ⟨k, hk, -, -, e, e2, -⟩ := nextInsideToken_scan (Sim.refl w) hf hf
  rw [e, e2, nextInsideToken_one_line hk]
  have : (l.input.getD (l.pos + k) 0 == 10) = false :=
    Bool.eq_false_iff.mpr fun h => by have := hk.1; rw [cur_ch, eq_of_beq h] at this; exact absurd this (by decide)
  show 1 + (countLF l.input (l.pos + k) + _) = _
  rw [this]; rfl

theorem layout_eq (h : Layout l m) (f f' : Nat) (w : l.WF) (hf : l.input.size - l.pos < f)
    (hf' : m.input.size - m.pos < f') : nextInsideToken f l = nextInsideToken f' m := by
  obtain ⟨k, hk, hl, -, e, -⟩ := nextInsideToken_scan (Sim.refl (h.wf w)) hf' hf'
  rw [e]
  exact ((h.trans hl).nextInsideToken_eq hk f w hf).1

/-- C18 (lexer): layout in front of a token inside a tag is insignificant.  (`layout_eq` says more: the token's line
    and the state afterwards are equal too.) -/
theorem layout_insignificant (h : Layout l m) (f f' : Nat) (w : l.WF) (hf : l.input.size - l.pos < f)
    (hf' : m.input.size - m.pos < f') : TokSim (nextInsideToken f l) (nextInsideToken f' m) := by
  rw [layout_eq h f f' w hf hf']
  exact ⟨rfl, rfl, Sim.refl (nextInsideToken_spec f' m (h.wf w) hf').1.wf⟩

end LX
end Plush
