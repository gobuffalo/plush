import PlushProofs.Lib.LexerSim
/-!
  Theorem A (DESIGN §13.6; the lexer half of C03): the scanner is total on every byte string.
  * the invariant `WF` holds initially and after every `NextToken`;
  * every loop of `lexer.go` leaves because its guard is false, inside the input, never because the model's budget
    ran out (`…_spec`);
  * every `NextToken` consumes at least one byte unless the scan is `Done`, and from then on every token is the same EOF;
  * `stateAfter` / `tokenAt` are the unbounded stream `NextToken, NextToken, …`; the array `lexAll` with its last
    element repeated, which is what the parser model reads, is that stream (`lexAll_is_stream`).
-/
namespace Plush
namespace LX

variable {a : Array UInt8} {p : Nat} {i : Bool}

theorem adv_of_cur {l : LX} {n : Nat} (e : l = cur a (p + n) i) (hn : n ≤ a.size - p) (hle : p ≤ a.size) :
    Adv (cur a p i) l ∧ l.pos ≤ a.size ∧ l.inside = i := by
  subst e; exact ⟨Adv.cur a i i (Nat.le_add_right p n), by rw [cur_pos]; omega, rfl⟩

theorem readWhile_spec (p : UInt8 → Bool) (hp : p 0 = false) :
    ∀ (fuel : Nat) (l : LX), l.WF → l.pos ≤ l.input.size → l.input.size - l.pos < fuel →
      Adv l (readWhile p fuel l) ∧ (readWhile p fuel l).pos ≤ l.input.size ∧ p (readWhile p fuel l).ch = false
        ∧ (readWhile p fuel l).inside = l.inside ∧ (p l.ch = true → l.pos < (readWhile p fuel l).pos) := by
  intro fuel l w hle hf
  obtain ⟨a, q, i, rfl⟩ := w.exists_cur
  obtain ⟨n, e, -, hn, -, hout⟩ := readWhile_scan (i := i) p hp (View.refl a q) hf hf
  obtain ⟨h1, h2, h3⟩ := adv_of_cur e hn hle
  refine ⟨h1, h2, by rw [e]; exact hout, h3, fun h => ?_⟩
  cases n with
  | zero => rw [Nat.add_zero, ← cur_ch (i := i), h] at hout; exact Bool.noConfusion hout
  | succ n => rw [e]; exact Nat.lt_add_of_pos_right (Nat.succ_pos n)

theorem readWhile_exact (p : UInt8 → Bool) (e : Nat) :
    ∀ (fuel : Nat) (l : LX), l.WF → l.pos ≤ e → e - l.pos < fuel →
      (∀ i, l.pos ≤ i → i < e → p (l.input.getD i 0) = true) → p (l.input.getD e 0) = false →
      (readWhile p fuel l).pos = e := by
  intro fuel l w hle hf hin hout
  obtain ⟨a, q, i, rfl⟩ := w.exists_cur
  simp only [cur_pos, cur_input] at hle hf hin hout
  obtain ⟨n, rfl⟩ : ∃ n, e = q + n := ⟨e - q, by omega⟩
  rw [readWhile_cur p fuel q n (by omega) (fun j hj => hin (q + j) (by omega) (by omega)) hout]
  rfl

theorem skipWhitespace_spec (l : LX) (w : l.WF) :
    Adv l l.skipWhitespace ∧ Gen.isWhitespace l.skipWhitespace.ch = false ∧ l.skipWhitespace.inside = l.inside
      ∧ (l.pos < l.input.size → l.skipWhitespace.pos ≤ l.input.size)
      ∧ (l.input.size ≤ l.pos → l.skipWhitespace = l) := by
  obtain ⟨a, p, i, rfl⟩ := w.exists_cur
  obtain ⟨n, e, -, hn, -, hout⟩ := skipWhitespace_scan (i := i) (View.refl a p)
  rw [e]
  refine ⟨Adv.cur a i i (Nat.le_add_right p n), hout, rfl, fun h => by simp only [cur_pos, cur_input] at h ⊢; omega, fun h => ?_⟩
  rw [show n = 0 by simp only [cur_pos, cur_input] at h; omega]; rfl

theorem skipQuoteEscapes_spec :
    ∀ (fuel : Nat) (l : LX), l.WF → l.pos ≤ l.input.size → l.input.size - l.pos < fuel →
      Adv l (skipQuoteEscapes fuel l) ∧ (skipQuoteEscapes fuel l).pos ≤ l.input.size
        ∧ ((skipQuoteEscapes fuel l).ch == 92 && (skipQuoteEscapes fuel l).peekChar == 34) = false
        ∧ (skipQuoteEscapes fuel l).inside = l.inside := by
  intro fuel l w hle hf
  obtain ⟨a, p, i, rfl⟩ := w.exists_cur
  obtain ⟨n, e, -, hn, hout⟩ := skipQuoteEscapes_scan (i := i) (View.refl a p) hf hf
  obtain ⟨h1, h2, h3⟩ := adv_of_cur e hn hle
  exact ⟨h1, h2, by rw [e]; simpa using hout, h3⟩

theorem readStringLoop_spec :
    ∀ (fuel : Nat) (l : LX), l.WF → l.pos ≤ l.input.size → l.input.size - l.pos < fuel →
      Adv l (readStringLoop fuel l) ∧ (readStringLoop fuel l).pos ≤ l.input.size
        ∧ ((readStringLoop fuel l).ch = 0 ∨ (readStringLoop fuel l).ch = 34)
        ∧ (readStringLoop fuel l).inside = l.inside
        ∧ (l.ch ≠ 0 → l.pos < (readStringLoop fuel l).pos) := by
  intro fuel l w hle hf
  obtain ⟨a, p, i, rfl⟩ := w.exists_cur
  obtain ⟨n, e, -, hn, hpos, hex⟩ := readStringLoop_scan (i := i) fuel fuel p p (View.refl a p) hf hf
  obtain ⟨h1, h2, h3⟩ := adv_of_cur e hn hle
  exact ⟨h1, h2, by rw [e]; exact hex, h3, fun h => by rw [e]; exact Nat.lt_add_of_pos_right (hpos h)⟩

theorem scanTo_spec (stop : UInt8 → Bool) :
    ∀ (fuel : Nat) (l : LX), l.WF → l.pos ≤ l.input.size → l.input.size - l.pos < fuel →
      Adv l (scanTo stop fuel l) ∧ (scanTo stop fuel l).pos ≤ l.input.size
        ∧ ((scanTo stop fuel l).ch = 0 ∨ stop (scanTo stop fuel l).ch = true)
        ∧ (scanTo stop fuel l).inside = l.inside
        ∧ (l.ch ≠ 0 → l.pos < (scanTo stop fuel l).pos) := by
  intro fuel l w hle hf
  obtain ⟨a, p, i, rfl⟩ := w.exists_cur
  obtain ⟨n, e, -, hn, hpos, hex⟩ := scanTo_scan (i := i) stop (View.refl a p) hf hf
  obtain ⟨h1, h2, h3⟩ := adv_of_cur e hn hle
  exact ⟨h1, h2, by rw [e]; exact hex, h3, fun h => by rw [e]; exact Nat.lt_add_of_pos_right (hpos h)⟩

theorem readBStringLoop_spec :
    ∀ (fuel : Nat) (l : LX), l.WF → l.pos ≤ l.input.size → l.input.size - l.pos < fuel →
      Adv l (readBStringLoop fuel l) ∧ (readBStringLoop fuel l).pos ≤ l.input.size
        ∧ ((readBStringLoop fuel l).ch = 0 ∨ (readBStringLoop fuel l).ch = 96)
        ∧ (readBStringLoop fuel l).inside = l.inside
        ∧ (l.ch ≠ 0 → l.pos < (readBStringLoop fuel l).pos) := by
  intro fuel l w hle hf
  have := scanTo_spec (· == 96) fuel l w hle hf
  simp only [← readBStringLoop_eq, beq_iff_eq] at this
  exact this

theorem skipLineComment_spec :
    ∀ (fuel : Nat) (l : LX), l.WF → l.pos ≤ l.input.size → l.input.size - l.pos < fuel →
      Adv l (skipLineComment fuel l) ∧ (skipLineComment fuel l).pos ≤ l.input.size
        ∧ ((skipLineComment fuel l).ch = 0 ∨ (skipLineComment fuel l).ch = 10 ∨ (skipLineComment fuel l).ch = 13)
        ∧ (skipLineComment fuel l).inside = l.inside
        ∧ (l.ch ≠ 0 → l.pos < (skipLineComment fuel l).pos) := by
  intro fuel l w hle hf
  have := scanTo_spec (fun c => c == 10 || c == 13) fuel l w hle hf
  simp only [← skipLineComment_eq, Bool.or_eq_true, beq_iff_eq] at this
  exact this

/-- The text loop lands inside the input, consumes something unless it starts on NUL or on `<%`, and — when it hands back no
    text of its own (`none`: the caller slices) — it has stopped because its guard is false: on NUL or on `<%`.
    `position ≤ p`: the `\\<%` exit slices `input[position : l.position - 1]`. -/
theorem readHTMLLoop_lands (position : Nat) : ∀ (fuel p : Nat), position ≤ p → p ≤ a.size → a.size - p < fuel →
    ∃ n j, (readHTMLLoop position fuel (cur a p i)).2 = cur a (p + n) j ∧ p + n ≤ a.size
      ∧ (a.getD p 0 ≠ 0 → ¬ (a.getD p 0 = 60 ∧ a.getD (p + 1) 0 = 37) → 0 < n)
      ∧ ((readHTMLLoop position fuel (cur a p i)).1 = none →
          a.getD (p + n) 0 = 0 ∨ (a.getD (p + n) 0 = 60 ∧ a.getD (p + n + 1) 0 = 37)) := by
  intro fuel
  induction fuel with
  | zero => intro p _ _ h; omega
  | succ f ih =>
    intro p hpos hle hf
    rw [readHTMLLoop]
    simp only [cur_ch, cur_peekChar, cur_peekCharAt, readChar_cur, cur_pos]
    by_cases h0 : a.getD p 0 = 0
    · simp only [h0, bne_self_eq_false, Bool.false_eq_true, ↓reduceIte]
      exact ⟨0, i, rfl, hle, fun h => absurd rfl h, fun _ => .inl h0⟩
    · have hlt := getD_ne_zero_lt h0
      have hb : (a.getD p 0 != 0) = true := by simpa using h0
      -- the two exits that keep scanning, from a later position `q`
      have cont : ∀ q, p < q → q ≤ a.size → ∃ n j, (readHTMLLoop position f (cur a q i)).2 = cur a (p + n) j ∧ p + n ≤ a.size
          ∧ (a.getD p 0 ≠ 0 → ¬ (a.getD p 0 = 60 ∧ a.getD (p + 1) 0 = 37) → 0 < n)
          ∧ ((readHTMLLoop position f (cur a q i)).1 = none →
              a.getD (p + n) 0 = 0 ∨ (a.getD (p + n) 0 = 60 ∧ a.getD (p + n + 1) 0 = 37)) := by
        intro q hq hq2
        obtain ⟨n, j, e, hn, -, hx⟩ := ih q (by omega) hq2 (by omega)
        have eq : p + (q - p + n) = q + n := by omega
        exact ⟨q - p + n, j, by rw [e, eq], by omega, fun _ _ => by omega, by rw [eq]; exact hx⟩
      simp only [hb, ↓reduceIte]
      by_cases hesc : (a.getD p 0 == 92 && a.getD (p + 1) 0 == 60 && a.getD (p + 2) 0 == 37) = true
      · simp only [hesc, ↓reduceIte]
        have h37 : a.getD (p + 2) 0 ≠ 0 := by simp only [Bool.and_eq_true, beq_iff_eq] at hesc; rw [hesc.2]; decide
        have hlt2 := getD_ne_zero_lt h37
        by_cases hprev : ((cur a p i).prevChar == 92) = true
        · simp only [hprev, ↓reduceIte, Nat.add_sub_cancel, slice_cur hpos hle]
          exact ⟨1, i, rfl, hlt, fun _ _ => Nat.one_pos, fun h => nomatch h⟩
        · simp only [hprev, Bool.false_eq_true, ↓reduceIte]
          by_cases ht : (a.getD (p + 1 + 1) 0 == 60 && a.getD (p + 1 + 1 + 1) 0 == 37) = true
          · simp only [ht, ↓reduceIte]
            exact ⟨2, true, rfl, by omega, fun _ _ => by decide, fun _ => .inr (by simpa [Nat.add_assoc] using ht)⟩
          · simp only [ht, Bool.false_eq_true, ↓reduceIte]
            exact cont _ (by omega) (by omega)
      · simp only [hesc, Bool.false_eq_true, ↓reduceIte]
        by_cases ht : (a.getD p 0 == 60 && a.getD (p + 1) 0 == 37) = true
        · simp only [ht, ↓reduceIte]
          exact ⟨0, true, rfl, hle, fun _ h => absurd (by simpa using ht) h, fun _ => .inr (by simpa using ht)⟩
        · simp only [ht, Bool.false_eq_true, ↓reduceIte]
          exact cont _ (Nat.lt_succ_self p) hlt

theorem readHTML_lands (h0 : a.getD p 0 ≠ 0) (ht : ¬ (a.getD p 0 = 60 ∧ a.getD (p + 1) 0 = 37)) :
    ∃ n j, (cur a p i).readHTML.2 = cur a (p + n) j ∧ 0 < n := by
  have hlt := getD_ne_zero_lt h0
  obtain ⟨n, j, e, hn, hpos, -⟩ := readHTMLLoop_lands p (a := a) (i := i) (a.size + 2) p (Nat.le_refl _) (Nat.le_of_lt hlt) (by omega)
  refine ⟨n, j, ?_, hpos h0 ht⟩
  unfold readHTML
  simp only [cur_pos, cur_input]
  generalize readHTMLLoop p (a.size + 2) (cur a p i) = r at e
  obtain ⟨o, l⟩ := r
  simp only at e
  subst e
  cases o with
  | some s => rfl
  | none => simp only [cur_pos, slice_cur (Nat.le_add_right p n) hn]

/-- A NUL byte outside a tag ends the scan (`NextToken`: `l.ch == 0` → EOF, nothing consumed).  Inside a tag it gives an
    EOF token and the scan goes on, so there only the end of the input counts. -/
def Done (l : LX) : Prop := (l.inside = false ∧ l.ch = 0) ∨ l.input.size ≤ l.pos

theorem nextToken_lands (a : Array UInt8) (p : Nat) (i : Bool) :
    ∃ n j, (cur a p i).nextToken.2 = cur a (p + n) j ∧ (¬ (cur a p i).Done → 0 < n) := by
  have inside : ∃ n j, (nextInsideToken (a.size + 2) (cur a p true)).2 = cur a (p + n) j ∧ (¬ (cur a p i).Done → 0 < n) := by
    obtain ⟨n, j, e, hn⟩ := nextInsideToken_lands (a := a) (p := p) (i := true) (f := a.size + 2) (by omega)
    exact ⟨n, j, e, fun _ => hn⟩
  unfold nextToken
  cases i with
  | true => simpa only [cur_inside, ↓reduceIte, cur_input] using inside
  | false =>
    simp only [cur_inside, Bool.false_eq_true, ↓reduceIte, ↓cur_setInside, cur_ch, cur_peekChar, cur_input]
    by_cases h0 : a.getD p 0 = 0
    · simp only [h0, beq_self_eq_true, ↓reduceIte]
      exact ⟨0, false, rfl, fun hnd => absurd (Or.inl ⟨rfl, h0⟩) hnd⟩
    · simp only [beq_iff_eq, h0, ↓reduceIte]
      by_cases ht : (a.getD p 0 == 60 && a.getD (p + 1) 0 == 37) = true
      · simpa only [ht, ↓reduceIte] using inside
      · simp only [ht, Bool.false_eq_true, ↓reduceIte]
        obtain ⟨n, j, e, hn⟩ := readHTML_lands (i := false) h0 (by simpa using ht)
        exact ⟨n, j, e, fun _ => hn⟩

theorem nextToken_spec (l : LX) (w : l.WF) :
    Adv l l.nextToken.2 ∧ (¬ l.Done → l.pos < l.nextToken.2.pos) := by
  obtain ⟨a, p, i, rfl⟩ := w.exists_cur
  obtain ⟨n, j, e, hn⟩ := nextToken_lands a p i
  rw [e]
  exact ⟨Adv.cur a i j (Nat.le_add_right _ _), fun h => Nat.lt_add_of_pos_right (hn h)⟩

@[simp] theorem finish_snd (tok : Token) (l : LX) : (finish tok l).2 = l.readChar := rfl
@[simp] theorem two_snd (l : LX) (t : TT) (s : String) : (two l t s).2 = l.readChar.readChar := rfl

theorem nextInsideToken_done (fuel : Nat) (l : LX) (w : l.WF) (h : l.input.size ≤ l.pos) :
    nextInsideToken (fuel + 1) l = ({ type := .EOF, lit := [], line := l.line }, l.readChar) := by
  have hz : l.ch = 0 := by rw [w.ch]; exact getD_zero_of_ge _ _ h
  have hsw := skipWhitespace_id l (by rw [hz]; decide)
  rw [nextInsideToken]
  simp (config := { decide := true }) only [↓reduceIte, hsw, hz, finish]

theorem nextInsideToken_eof (fuel : Nat) (l : LX) (w : l.WF) (h : l.input.size ≤ l.pos) :
    (nextInsideToken (fuel + 1) l).1.type = .EOF := by
  rw [nextInsideToken_done fuel l w h]

theorem done_step (l : LX) (w : l.WF) (hd : l.Done) :
    l.nextToken.1 = { type := .EOF, lit := [], line := l.line } ∧ l.nextToken.2.Done ∧ l.nextToken.2.line = l.line := by
  obtain ⟨a, p, i, rfl⟩ := w.exists_cur
  unfold nextToken
  cases i with
  | true =>
    have hge : a.size ≤ p := by
      rcases hd with ⟨h1, _⟩ | h
      · exact Bool.noConfusion h1
      · exact h
    simp only [cur_inside, ↓reduceIte, cur_input]
    rw [nextInsideToken_done _ _ (cur_wf _ _ _) hge, readChar_cur]
    refine ⟨rfl, Or.inr (Nat.le_succ_of_le hge), ?_⟩
    -- the byte stepped onto lies past the input: no line feed
    show 1 + countLF a (p + 1 + 1) = 1 + countLF a (p + 1)
    simp only [countLF, getD_zero_of_ge a (p + 1) (Nat.le_succ_of_le hge)]
    rfl
  | false =>
    have hc : a.getD p 0 = 0 := by
      rcases hd with ⟨_, h2⟩ | h
      · exact h2
      · exact getD_zero_of_ge _ _ h
    simp only [cur_inside, Bool.false_eq_true, ↓reduceIte, cur_ch, hc, beq_self_eq_true]
    exact ⟨trivial, Or.inl ⟨rfl, hc⟩, trivial⟩

end LX
end Plush

namespace Plush
open LX

def stateAfter : Nat → LX → LX
  | 0, l => l
  | n+1, l => stateAfter n l.nextToken.2

def tokenAt (k : Nat) (l : LX) : Token := (stateAfter k l).nextToken.1

theorem stateAfter_succ' (n : Nat) (l : LX) : stateAfter (n+1) l = (stateAfter n l).nextToken.2 := by
  induction n generalizing l with
  | zero => rfl
  | succ n ih => simp only [stateAfter] at ih ⊢; rw [ih]

theorem stateAfter_adv (n : Nat) (l : LX) (w : l.WF) : Adv l (stateAfter n l) := by
  induction n generalizing l with
  | zero => exact Adv.refl w
  | succ n ih =>
    have h1 := (nextToken_spec l w).1
    exact h1.trans (ih _ h1.wf)

theorem lexN_getElem? (m : Nat) (l : LX) (k : Nat) (hk : k < m) : (lexN m l)[k]? = some (tokenAt k l) := by
  induction m generalizing l k with
  | zero => omega
  | succ m ih =>
    cases k with
    | zero => simp [lexN, tokenAt, stateAfter]
    | succ k =>
      simp only [lexN, List.getElem?_cons_succ]
      rw [ih _ _ (by omega)]
      rfl

theorem lexCrashed_false (n : Nat) (l : LX) (w : l.WF) : lexCrashed n l = false := by
  induction n generalizing l with
  | zero => exact w.nc
  | succ n ih => simp [lexCrashed, w.nc, ih _ (nextToken_spec l w).1.wf]

theorem stateAfter_progress (n : Nat) (l : LX) (w : l.WF) :
    (stateAfter n l).Done ∨ l.pos + n ≤ (stateAfter n l).pos := by
  induction n with
  | zero => right; simp [stateAfter]
  | succ n ih =>
    rw [stateAfter_succ']
    have wn := (stateAfter_adv n l w).wf
    by_cases hd : (stateAfter n l).Done
    · left; exact (done_step _ wn hd).2.1
    · right
      have := (nextToken_spec _ wn).2 hd
      have := ih.resolve_left hd
      omega

theorem done_forever (n : Nat) (l : LX) (w : l.WF) (hd : l.Done) :
    (stateAfter n l).Done ∧ (stateAfter n l).line = l.line ∧ tokenAt n l = { type := .EOF, lit := [], line := l.line } := by
  induction n generalizing l with
  | zero => exact ⟨hd, rfl, (done_step l w hd).1⟩
  | succ n ih =>
    have ds := done_step l w hd
    have := ih _ (nextToken_spec l w).1.wf ds.2.1
    simp only [stateAfter, tokenAt] at this ⊢
    rw [ds.2.2] at this
    exact this

theorem done_after_size (input : Array UInt8) : (stateAfter (input.size + 1) (LX.new input)).Done := by
  rcases stateAfter_progress (input.size + 1) (LX.new input) (new_wf input) with h | h
  · exact h
  · right
    have := (stateAfter_adv (input.size + 1) (LX.new input) (new_wf input)).input
    rw [this]; simp [LX.new] at h ⊢; omega

theorem stateAfter_add (a c : Nat) (l : LX) : stateAfter (a + c) l = stateAfter c (stateAfter a l) := by
  induction a generalizing l with
  | zero => simp [stateAfter]
  | succ a ih => rw [Nat.succ_add]; simp only [stateAfter]; exact ih _

theorem tokenAt_add (a c : Nat) (l : LX) : tokenAt (a + c) l = tokenAt c (stateAfter a l) := by
  rw [tokenAt, stateAfter_add]; rfl

theorem stream_tail_eof (input : Array UInt8) (k : Nat) (hk : input.size + 1 ≤ k) :
    tokenAt k (LX.new input) = tokenAt (input.size + 1) (LX.new input) ∧ (tokenAt k (LX.new input)).type = .EOF := by
  obtain ⟨d, rfl⟩ : ∃ d, k = (input.size + 1) + d := ⟨k - (input.size + 1), by omega⟩
  have w := (stateAfter_adv (input.size + 1) (LX.new input) (new_wf input)).wf
  have hd := done_after_size input
  have h0 : tokenAt (input.size + 1) (LX.new input) = _ := (done_forever 0 _ w hd).2.2
  rw [tokenAt_add, (done_forever d _ w hd).2.2, h0]
  exact ⟨rfl, rfl⟩

theorem lexN_length (n : Nat) (l : LX) : (lexN n l).length = n := by
  induction n generalizing l with
  | zero => rfl
  | succ n ih => simp [lexN, ih]

theorem lexAll_back (input : Array UInt8) : (lexAll input).back? = some (tokenAt (input.size + 1) (LX.new input)) := by
  simp only [lexAll, Array.back?, List.size_toArray, lexN_length]
  simp [lexN_getElem? (input.size + 2) (LX.new input) (input.size + 1) (by omega)]

/-- the left-hand side is `P.tokAt s i` in the state `s` from which `parseToks` starts on `lexAll input` -/
theorem lexAll_is_stream (input : Array UInt8) (i : Nat) :
    (lexAll input).getD i ((lexAll input).back?.getD { type := .EOF, lit := [], line := 1 }) = tokenAt i (LX.new input) := by
  have hget : ∀ d, (lexAll input).getD i d = ((lexN (input.size + 2) (LX.new input))[i]?).getD d := by
    intro d; simp [lexAll, Array.getD_eq_getD_getElem?]
  rw [hget, lexAll_back]
  by_cases hi : i < input.size + 2
  · rw [lexN_getElem? _ _ _ hi]; rfl
  · have : (lexN (input.size + 2) (LX.new input))[i]? = none := by
      rw [List.getElem?_eq_none_iff, lexN_length]; omega
    rw [this]
    simp only [Option.getD_some, Option.getD_none]
    exact ((stream_tail_eof input i (by omega)).1).symm

theorem lexAll_back_eof (input : Array UInt8) (d : Token) : ((lexAll input).back?.getD d).type = .EOF := by
  rw [lexAll_back]
  exact (stream_tail_eof input (input.size + 1) (Nat.le_refl _)).2

end Plush
