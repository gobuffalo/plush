import PlushModel.Parser
/-! GENERATED by bin/gen_parser_eqs.py from PlushModel/Parser.lean — the unfolding equation of every function of the
    parser's mutual block, each closed by `rfl`, so the proofs that use them are about exactly the model's text. -/
namespace Plush
namespace P

theorem parseStatement_eq (fuel : Nat) :
    parseStatement (fuel+1) = (do
    match (← cur).type with
    | .LET => pure (some (← parseLetStatement fuel))
    | .S_START => nextTok; parseStatement fuel
    | .RETURN => pure (some (← parseReturnStatement fuel false))
    | .E_START => pure (some (← parseReturnStatement fuel true))
    | .RBRACE => pure none
    | .EOF => pure none
    | _ => pure (some (← parseExpressionStatement fuel))) := by rfl

theorem parseReturnStatement_eq (fuel : Nat) (isOut : Bool) :
    parseReturnStatement (fuel+1) isOut = (do
    let t ← cur
    nextTok
    let v ← parseExpression fuel Gen.LOWEST
    skipSemicolon
    pure (.ret isOut t v)) := by rfl

theorem parseLetStatement_eq (fuel : Nat) :
    parseLetStatement (fuel+1) = (do
    let t ← cur
    if !(← expectPeek .IDENT) then return .let_ t none none
    let c ← cur
    let name : Ident := { tok := c, segs := [c.lit] }
    if !(← expectPeek .ASSIGN) then return .let_ t (some name) none
    nextTok
    let v ← parseExpression fuel Gen.LOWEST
    skipSemicolon
    pure (.let_ t (some name) v)) := by rfl

theorem parseExpressionStatement_eq (fuel : Nat) :
    parseExpressionStatement (fuel+1) = (do
    let t ← cur
    let e ← parseExpression fuel Gen.LOWEST
    skipSemicolon
    pure (.es t e)) := by rfl

theorem parseExpression_eq (fuel : Nat) (prec : Nat) :
    parseExpression (fuel+1) prec = (do
    let c ← cur
    if c.type == .LET then return none
    match lookupLast c.type Gen.prefixFns with
    | none => errHere "no-prefix-parse-fn"; pure none
    | some f =>
      let left ← runPrefix fuel f
      infixLoop fuel prec left) := by rfl

theorem infixLoop_eq (fuel : Nat) (prec : Nat) (left : Option Expr) :
    infixLoop (fuel+1) prec left = (do
    if !(← peekIs .SEMICOLON) && prec < (← peekPrecedence) then
      match lookupLast (← peek).type Gen.infixFns with
      | none => pure left
      | some f =>
        nextTok
        let left ← runInfix fuel f left
        infixLoop fuel prec left
    else pure left) := by rfl

theorem runPrefix_eq (fuel : Nat) (f : Gen.PrefixFn) :
    runPrefix (fuel+1) f = (do
    let c ← cur
    match f with
    | .parseIdentifier =>
      let id : Ident := { tok := c, segs := splitOn1 46 c.lit }
      if (← peekIs .ASSIGN) then
        -- parseAssignExpression
        let _ ← expectPeek .ASSIGN
        nextTok
        let v ← parseExpression fuel Gen.LOWEST
        skipSemicolon
        pure (some (.asg c id v))
      else pure (some (.ident id))
    | .parseForLoopControlFlow =>
      if !(← get).inFor then errHere "not-in-a-loop"; pure none
      else if c.type == .BREAK then pure (some (.brk c)) else pure (some (.cont c))
    | .parseIntegerLiteral =>
      match atoi c.lit with
      | some v => pure (some (.int c v))
      | none => errHere "could-not-parse-integer"; pure none
    | .parseFloatLiteral =>
      if floatLitOk c.lit then pure (some (.float c)) else errHere "could-not-parse-float"; pure none
    | .parseStringLiteral => pure (some (.str c c.lit))
    | .parseCommentLiteral =>
      commentLoop fuel
    | .parseHTMLLiteral => pure (some (.html c c.lit))
    | .parsePrefixExpression =>
      nextTok
      let r ← parseExpression fuel Gen.PREFIX
      pure (some (.pre c c.lit r))
    | .parseBoolean => pure (some (.bool c (c.type == .TRUE)))
    | .parseGroupedExpression =>
      nextTok
      let e ← parseExpression fuel Gen.LOWEST
      if !(← expectPeek .RPAREN) then pure none else pure e
    | .parseIfExpression => parseIfExpression fuel
    | .parseForExpression =>
      -- `defer` restores the enclosing loop state on every exit
      let outer := (← get).inFor
      let r ← parseForExpression fuel
      modify fun s => { s with inFor := outer }
      pure r
    | .parseFunctionLiteral =>
      if !(← expectPeek .LPAREN) then return none
      let ps ← parseFunctionParameters fuel
      let outer := (← get).inFor
      modify fun s => { s with inFor := false }
      if !(← expectPeek .LBRACE) then
        modify fun s => { s with inFor := outer }
        return none
      let bl ← parseBlockStatement fuel
      modify fun s => { s with inFor := outer }
      pure (some (.fn c ps bl))
    | .parseArrayLiteral =>
      let es ← parseExpressionList fuel .RBRACKET
      pure (some (.arr c es))
    | .parseHashLiteral => hashLoop fuel c []
    | .returnNil => pure none) := by rfl

theorem commentLoop_eq (fuel : Nat) :
    commentLoop (fuel+1) = (do
    let c ← cur
    if c.type != .E_END && c.type != .EOF then nextTok; commentLoop fuel
    else pure (some (.str c []))) := by rfl

theorem runInfix_eq (fuel : Nat) (f : Gen.InfixFn) (left : Option Expr) :
    runInfix (fuel+1) f left = (do
    let c ← cur
    match f with
    | .parseInfixExpression =>
      let prec ← curPrecedence
      nextTok
      let r ← parseExpression fuel prec
      pure (some (.inf c c.lit left r))
    | .parseCallExpression =>
      match left with
      | none => errHere "nothing-to-call"; pure none
      | some function =>
        let ss := splitOn1 46 (pExpr function)
        let (callee, fn) : Option Expr × Expr :=
          if ss.length > 1 then
            (some (.ident { tok := identTok (ss.dropLast.getLast?.getD []), segs := ss.dropLast }),
             .ident { tok := identTok (ss.getLast?.getD []), segs := ss })
          else (none, function)
        let args ← parseExpressionList fuel .RPAREN
        let blk ← if (← peekIs .LBRACE) then do nextTok; pure (some (← parseBlockStatement fuel)) else pure none
        if (← peekIs .DOT) then
          let calleeValue := pExpr fn
          nextTok; nextTok
          let pe ← parseExpression fuel Gen.LOWEST
          match (← assignCallee pe calleeValue) with
          | none => pure none
          | some ch => pure (some (.call c callee (some ch) fn args blk))
        else pure (some (.call c callee none fn args blk))
    | .parseIndexExpression =>
      match left with
      | none => errHere "nothing-to-index"; pure none
      | some l =>
        nextTok
        let ix ← parseExpression fuel Gen.LOWEST
        if !(← expectPeek .RBRACKET) then return none
        let callee ← if (← peekIs .DOT) then do
            nextTok; nextTok
            let pe ← parseExpression fuel Gen.LOWEST
            match (← assignCallee pe (pExpr l)) with
            | none => return none
            | some x => pure (some x)
          else pure none
        let value ← if (← peekIs .ASSIGN) then do
            nextTok; nextTok
            parseExpression fuel Gen.LOWEST
          else pure none
        pure (some (.idx c (some l) ix value callee))) := by rfl

theorem parseExpressionList_eq (fuel : Nat) (end_ : TT) :
    parseExpressionList (fuel+1) end_ = (do
    if (← peekIs end_) then nextTok; return some []
    nextTok
    let e ← parseExpression fuel Gen.LOWEST
    let l ← exprListLoop fuel [e]
    if !(← expectPeek end_) then pure none else pure (some l)) := by rfl

theorem exprListLoop_eq (fuel : Nat) (acc : List (Option Expr)) :
    exprListLoop (fuel+1) acc = (do
    if (← peekIs .COMMA) then
      nextTok; nextTok
      let e ← parseExpression fuel Gen.LOWEST
      exprListLoop fuel (acc ++ [e])
    else pure acc) := by rfl

theorem hashLoop_eq (fuel : Nat) (t : Token) (acc : List (Option Expr × Option Expr)) :
    hashLoop (fuel+1) t acc = (do
    if !(← peekIs .RBRACE) then
      nextTok
      let k ← parseExpression fuel Gen.LOWEST
      if !(← expectPeek .COLON) then return none
      nextTok
      let v ← parseExpression fuel Gen.LOWEST
      -- Go stores the pairs in a map keyed by the key node: all nil keys are one entry (last value wins)
      let acc := (if k.isNone then acc.map (fun kv => if kv.1.isNone then (kv.1, v) else kv) else acc) ++ [(k, v)]
      if !(← peekIs .RBRACE) then
        if !(← expectPeek .COMMA) then return none
      hashLoop fuel t acc
    else
      if !(← expectPeek .RBRACE) then pure none else pure (some (.hash t acc))) := by rfl

theorem parseFunctionParameters_eq (fuel : Nat) :
    parseFunctionParameters (fuel+1) = (do
    if (← peekIs .RPAREN) then nextTok; return some []
    nextTok
    let c ← cur
    let l ← paramLoop fuel [{ tok := c, segs := [c.lit] }]
    if !(← expectPeek .RPAREN) then pure none else pure (some l)) := by rfl

theorem paramLoop_eq (fuel : Nat) (acc : List Ident) :
    paramLoop (fuel+1) acc = (do
    if (← peekIs .COMMA) then
      nextTok; nextTok
      let c ← cur
      paramLoop fuel (acc ++ [{ tok := c, segs := [c.lit] }])
    else pure acc) := by rfl

theorem parseBlockStatement_eq (fuel : Nat) :
    parseBlockStatement (fuel+1) = (do
    let t ← cur
    nextTok
    let ss ← blockLoop fuel []
    pure (.mk t ss)) := by rfl

theorem blockLoop_eq (fuel : Nat) (acc : List Stmt) :
    blockLoop (fuel+1) acc = (do
    let c ← cur
    if c.type != .RBRACE && c.type != .EOF then
      if c.type == .S_START || c.type == .E_END then nextTok; blockLoop fuel acc
      else
        let st ← parseStatement fuel
        let acc := match st with | some s => acc ++ [s] | none => acc
        nextTok
        blockLoop fuel acc
    else pure acc) := by rfl

theorem parseIfExpression_eq (fuel : Nat) :
    parseIfExpression (fuel+1) = (do
    let t ← cur
    if !(← expectPeek .LPAREN) then return none
    nextTok
    let cond ← parseExpression fuel Gen.LOWEST
    let line := (← cur).line
    let s ← get
    let (ok, errs) := confirmIfCondition line cond s.errs
    set { s with errs := errs }
    if !ok then return none
    if !(← expectPeek .RPAREN) then return none
    if !(← expectPeek .LBRACE) then return none
    let bl ← parseBlockStatement fuel
    elseLoop fuel t cond bl [] none) := by rfl

theorem elseLoop_eq (fuel : Nat) (t : Token) (cond : Option Expr) (bl : Block) (elifs : List (Token × Option Expr × Block)) (els : Option Block) :
    elseLoop (fuel+1) t cond bl elifs els = (do
    if (← peekIs .ELSE) then
      nextTok
      if (← peekIs .IF) then
        nextTok
        -- parseElseIfExpression
        let et ← cur
        if !(← expectPeek .LPAREN) then return none
        nextTok
        let ec ← parseExpression fuel Gen.LOWEST
        if !(← expectPeek .RPAREN) then return none
        if !(← expectPeek .LBRACE) then return none
        let eb ← parseBlockStatement fuel
        elseLoop fuel t cond bl (elifs ++ [(et, ec, eb)]) els
      else
        if !(← expectPeek .LBRACE) then return none
        let eb ← parseBlockStatement fuel
        elseLoop fuel t cond bl elifs (some eb)
    else pure (some (.if_ t cond bl elifs els))) := by rfl

theorem parseForExpression_eq (fuel : Nat) :
    parseForExpression (fuel+1) = (do
    let t ← cur
    if !(← expectPeek .LPAREN) then return none
    let ln := (← cur).line
    modify fun s => { s with inFor := true }
    match (← forNamesLoop fuel ln []) with
    | none => pure none
    | some names =>
      let (key, val) : Bytes × Bytes := match names with
        | [v] => (b "_", v)
        | [k, v] => (k, v)
        | _ => (b "_", b "@value")
      nextTok
      if !(← curIs .IN) then return none
      nextTok
      let iter ← parseExpression fuel Gen.LOWEST
      match iter with
      | some (.call ct cal ch f args (some blk)) =>
        pure (some (.for_ t key val (some (.call ct cal ch f args none)) (some blk)))
      | _ =>
        if !(← expectPeek .LBRACE) then return none
        let bl ← parseBlockStatement fuel
        pure (some (.for_ t key val iter (some bl)))) := by rfl

theorem forNamesLoop_eq (fuel : Nat) (ln : Nat) (acc : List Bytes) :
    forNamesLoop (fuel+1) ln acc = (do
    let c ← cur
    if c.type != .RPAREN then
      let acc := if c.type == .IDENT then acc ++ [c.lit] else acc
      let p ← peek
      if p.type == .LBRACE || p.type == .EOF then
        addErr (some ln) "expected-rparen"
        pure none
      else nextTok; forNamesLoop fuel ln acc
    else pure (some acc)) := by rfl

end P
end Plush
