import PlushProofs.Lib.ParserWalk
/-!
  C15, parser side. Every parse function moves the error list along `Appends` (the errors it finds stay, what it adds
  carries a line): an instance of the walk of `ParserWalk`.
-/
namespace Plush
namespace P

def AL (errs : Array PErr) : Prop := ∀ e ∈ errs.toList, e.line.isSome = true

abbrev AllLines (s : PS) : Prop := AL s.errs

def Keeps {α} (m : PM α) (s : PS) : Prop := PC m s (fun _ s' => AllLines s → AllLines s')

theorem Appends.lines {a b : Array PErr} : Appends a b → AL a → AL b
  | ⟨_, e, h⟩, ha => fun x hx => by rw [e] at hx; exact (List.mem_append.mp hx).elim (ha x) (h x)

structure AllKeeps (n : Nat) : Prop where
  stmt : ∀ s, Keeps (parseStatement n) s
  ret : ∀ s o, Keeps (parseReturnStatement n o) s
  let_ : ∀ s, Keeps (parseLetStatement n) s
  exprStmt : ∀ s, Keeps (parseExpressionStatement n) s
  expr : ∀ s p, Keeps (parseExpression n p) s
  infixLoop : ∀ s p l, Keeps (infixLoop n p l) s
  runPrefix : ∀ s f, Keeps (runPrefix n f) s
  comment : ∀ s, Keeps (commentLoop n) s
  runInfix : ∀ s f l, Keeps (runInfix n f l) s
  exprList : ∀ s t, Keeps (parseExpressionList n t) s
  exprListLoop : ∀ s a, Keeps (exprListLoop n a) s
  hash : ∀ s t a, Keeps (hashLoop n t a) s
  params : ∀ s, Keeps (parseFunctionParameters n) s
  paramLoop : ∀ s a, Keeps (paramLoop n a) s
  block : ∀ s, Keeps (parseBlockStatement n) s
  blockLoop : ∀ s a, Keeps (blockLoop n a) s
  if_ : ∀ s, Keeps (parseIfExpression n) s
  elseLoop : ∀ s t c b e l, Keeps (elseLoop n t c b e l) s
  for_ : ∀ s, Keeps (parseForExpression n) s
  forNames : ∀ s ln a, Keeps (forNamesLoop n ln a) s

theorem appends_closed : Closed (fun s s' => Appends s.errs s'.errs) where
  refl _ := .refl _
  trans := .trans
  next _ := .refl _
  err _ ln k := .push _ ln k
  confirm _ ln c := confirm_appends ln c _
  flag _ r := r

/-- the per-function form of "every error has a line"; `C15_syntax_errors_name_a_line` itself goes through
    `Pres.programLoop` and does not need it -/
theorem allKeeps (n : Nat) : AllKeeps n :=
  have a := appends_closed.all n
  have k {α} {m : PM α} (p : Pres _ m) (s : PS) : Keeps m s := PC_conseq (p s) fun _ _ r => r.lines
  ⟨k a.stmt, fun s o => k (a.ret o) s, k a.let_, k a.exprStmt, fun s p => k (a.expr p) s, fun s p l => k (a.infixLoop p l) s,
    fun s f => k (a.runPrefix f) s, k a.comment, fun s f l => k (a.runInfix f l) s, fun s t => k (a.exprList t) s,
    fun s x => k (a.exprListLoop x) s, fun s t x => k (a.hash t x) s, k a.params, fun s x => k (a.paramLoop x) s, k a.block,
    fun s x => k (a.blockLoop x) s, k a.if_, fun s t c b e l => k (a.elseLoop t c b e l) s,
    fun s => PC_conseq (a.for_ s) fun _ _ ⟨_, r⟩ => Appends.lines r, fun s ln x => k (a.forNames ln x) s⟩

end P

/-- EVERY SYNTAX ERROR NAMES A LINE: for every source text, each error `parser.Parse` records carries a line
    number (`line N: …`): none of the twenty parse functions, nor the if-condition check, adds an error without one. -/
theorem parse_errors_have_lines (src : Bytes) (prog : Program) (errs : Array PErr)
    (h : parseBytes src = .ok (prog, errs)) : ∀ e ∈ errs.toList, e.line.isSome = true :=
  have ⟨_, k, e⟩ := P.parseToks_PC (P.Pres.programLoop P.appends_closed _ _ _ _) h
  e ▸ k.lines (by intro e he; simp [P.start] at he)

end Plush
