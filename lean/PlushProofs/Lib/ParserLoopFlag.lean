import PlushProofs.Lib.ParserWalk
/-!
  C08, parser side: the "inside a loop" flag (`p.inForBlock`, which decides whether `break` / `continue` is accepted)
  is scoped. An instance of the walk of `ParserWalk`.
-/
namespace Plush
namespace P

def KeepsFor {α} (m : PM α) (s : PS) : Prop := PC m s (fun _ s' => s'.inFor = s.inFor)

structure AllFor (n : Nat) : Prop where
  stmt : ∀ s, KeepsFor (parseStatement n) s
  ret : ∀ s o, KeepsFor (parseReturnStatement n o) s
  let_ : ∀ s, KeepsFor (parseLetStatement n) s
  exprStmt : ∀ s, KeepsFor (parseExpressionStatement n) s
  expr : ∀ s p, KeepsFor (parseExpression n p) s
  infixLoop : ∀ s p l, KeepsFor (infixLoop n p l) s
  runPrefix : ∀ s f, KeepsFor (runPrefix n f) s
  comment : ∀ s, KeepsFor (commentLoop n) s
  runInfix : ∀ s f l, KeepsFor (runInfix n f l) s
  exprList : ∀ s t, KeepsFor (parseExpressionList n t) s
  exprListLoop : ∀ s a, KeepsFor (exprListLoop n a) s
  hash : ∀ s t a, KeepsFor (hashLoop n t a) s
  params : ∀ s, KeepsFor (parseFunctionParameters n) s
  paramLoop : ∀ s a, KeepsFor (paramLoop n a) s
  block : ∀ s, KeepsFor (parseBlockStatement n) s
  blockLoop : ∀ s a, KeepsFor (blockLoop n a) s
  if_ : ∀ s, KeepsFor (parseIfExpression n) s
  elseLoop : ∀ s t c b e l, KeepsFor (elseLoop n t c b e l) s
  /-- the one exception: `parseForExpression` itself switches the flag on (its caller restores it) -/
  for_ : ∀ s, PC (parseForExpression n) s (fun _ _ => True)
  forNames : ∀ s ln a, KeepsFor (forNamesLoop n ln a) s

theorem flag_closed : Closed (fun s s' => s'.inFor = s.inFor) where
  refl _ := rfl
  trans r1 r2 := r2.trans r1
  next _ := rfl
  err _ _ _ := rfl
  confirm _ _ _ := rfl
  flag _ _ := rfl

end P

/-- THE LOOP FLAG IS SCOPED. Every parse function except `parseForExpression` itself (whose caller, `runPrefix`,
    restores the flag) returns, from every state, with the `inForBlock` flag it was called with, whatever was parsed in
    between (nested loops, function literals, blocks, constructs that failed half-way). So every statement of a block
    is parsed with the flag the block was entered with: set in a loop body, clear in the body of a function literal. -/
theorem loop_flag_scoped (n : Nat) : P.AllFor n :=
  have a := P.flag_closed.all n
  ⟨a.stmt, fun s o => a.ret o s, a.let_, a.exprStmt, fun s p => a.expr p s, fun s p l => a.infixLoop p l s,
    fun s f => a.runPrefix f s, a.comment, fun s f l => a.runInfix f l s, fun s t => a.exprList t s,
    fun s x => a.exprListLoop x s, fun s t x => a.hash t x s, a.params, fun s x => a.paramLoop x s, a.block,
    fun s x => a.blockLoop x s, a.if_, fun s t c b e l => a.elseLoop t c b e l s,
    fun _ _ _ _ => trivial, fun s ln x => a.forNames ln x s⟩

end Plush
