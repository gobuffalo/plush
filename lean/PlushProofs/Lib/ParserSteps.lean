import PlushProofs.Lib.ParserTotal
import PlushProofs.Lib.ParserEqs
/-!
  Following the expression parser on given tokens: one unfolding of `parseExpression` for a registered prefix function
  (`expr_step`), one turn of the operator loop (`loop_step`) and its end (`loop_stops`), and the tokens that are an
  expression by themselves (`atomOf`, `atom_step`). The round trip of `PrattRoundTrip` and the template shapes of
  `TemplateParse` are put together from these. Also where the comment loop stops (`commentLoop_stops`).
-/
namespace Plush
namespace P

theorem expr_step (f q : Nat) (fn : Gen.PrefixFn) (s : PS) (Q : Option Expr → PS → Prop)
    (hfn : lookupLast (tokAt s s.pos).type Gen.prefixFns = some fn)
    (h : OK (runPrefix f fn) s (fun l s' => OK (infixLoop f q l) s' Q)) : OK (parseExpression (f+1) q) s Q := by
  have hl : ((tokAt s s.pos).type == TT.LET) = false := beq_eq_false_iff_ne.mpr (lookupLast_ne hfn (by decide))
  rw [parseExpression_eq]
  simpa only [OK_bind, OK_cur, hl, OK_ite, hfn, Bool.false_eq_true, if_false] using h

theorem loop_step (f q : Nat) (fn : Gen.InfixFn) (l : Option Expr) (s : PS) (Q : Option Expr → PS → Prop)
    (hfn : lookupLast (tokAt s (s.pos + 1)).type Gen.infixFns = some fn) (hq : q < precOf (tokAt s (s.pos + 1)).type)
    (h : OK (runInfix f fn l) { s with pos := s.pos + 1 } (fun l' s' => OK (infixLoop f q l') s' Q)) :
    OK (infixLoop (f+1) q l) s Q := by
  have hsemi : ((tokAt s (s.pos + 1)).type == TT.SEMICOLON) = false := beq_eq_false_iff_ne.mpr (lookupLast_ne hfn (by decide))
  rw [infixLoop_eq]
  simpa only [OK_bind, OK_peekIs, OK_peekPrecedence, OK_ite, OK_peek, hsemi, hfn, OK_nextTok, Bool.not_false, Bool.true_and,
    decide_eq_true_eq, hq, if_true] using h

theorem loop_stops (f q : Nat) (left : Option Expr) (s : PS) (Q : Option Expr → PS → Prop)
    (hp : precOf (tokAt s (s.pos + 1)).type ≤ q) (h : Q left s) : OK (infixLoop (f+1) q left) s Q := by
  rw [infixLoop_eq]
  simp only [OK_bind, OK_peekIs, OK_peekPrecedence, OK_ite, OK_pure]
  have : ¬ (q < precOf (tokAt s (s.pos + 1)).type) := by omega
  simp [this, h]

/-- atoms: tokens whose prefix function consumes exactly that token and yields a leaf -/
def atomOf (c : Token) : Option Expr :=
  match c.type with
  | .IDENT => some (.ident { tok := c, segs := splitOn1 46 c.lit })
  | .INT => (atoi c.lit).map (Expr.int c)
  | .STRING => some (.str c c.lit)
  | .B_STRING => some (.str c c.lit)
  | .TRUE => some (.bool c true)
  | .FALSE => some (.bool c false)
  | _ => none

theorem atom_step (f q : Nat) (x : Expr) (s : PS) (Q : Option Expr → PS → Prop)
    (ha : atomOf (tokAt s s.pos) = some x) (hassign : (tokAt s (s.pos + 1)).type ≠ .ASSIGN)
    (h : OK (infixLoop (f+1) q (some x)) s Q) : OK (parseExpression (f+2) q) s Q := by
  have hna : ((tokAt s (s.pos + 1)).type == TT.ASSIGN) = false := beq_eq_false_iff_ne.mpr hassign
  unfold atomOf at ha
  split at ha <;> rename_i ht <;> try cases ha
  all_goals refine expr_step _ q _ s Q (by rw [ht]; rfl) ?_
  all_goals rw [runPrefix_eq]
  · simpa only [OK_bind, OK_cur, OK_peekIs, hna, OK_ite, Bool.false_eq_true, if_false, OK_pure] using h
  · obtain ⟨v, hv, rfl⟩ := Option.map_eq_some_iff.mp ha
    simpa only [OK_bind, OK_cur, hv, OK_pure] using h
  · simpa only [OK_bind, OK_cur, OK_pure] using h
  · simpa only [OK_bind, OK_cur, OK_pure] using h
  · simpa only [OK_bind, OK_cur, OK_pure, ht, beq_self_eq_true] using h
  · simpa only [OK_bind, OK_cur, OK_pure, ht, show (TT.FALSE == TT.TRUE) = false from rfl] using h

theorem commentLoop_stops (fuel : Nat) (s : PS) (h : (tokAt s s.pos).type = .E_END ∨ (tokAt s s.pos).type = .EOF) :
    (commentLoop (fuel + 1)).run s = .ok (some (.str (tokAt s s.pos) []), s) := by
  apply run_of_OK
  rw [commentLoop_eq]
  wp_simp
  rcases h with h | h <;> simp [h]

end P
end Plush
