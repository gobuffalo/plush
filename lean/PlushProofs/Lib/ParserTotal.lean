import PlushModel.Parser
/-!
  The two judgements about a parser action run from a state, `OK` (it returns, and then …) and `PC` (if it returns,
  then …), with one rule per primitive; and the statement of Theorem B (DESIGN §6 C03, parser half): the parser
  terminates on every token stream. The model's parser recurses on a depth budget (`fuel`); `AllOK` says that a budget
  linear in the number of tokens left is enough for every parse function, so that `outOfFuel` is unreachable
  (proof in `ParserTotalProof`). Also here, because every later file uses them: the `splitOn1` facts, the cursor move
  `PS.at`, `lookupLast` on the registration tables, `Appends` on the error list, and `parseToks` in terms of `programLoop`.
-/
namespace Plush

/-! `splitOn1 46` is the `strings.Split(·, ".")` by which `parseIdentifier` and `parseCallExpression` cut a dotted
    name into the segments of an identifier. -/

theorem splitOn1_ne_nil (sep : UInt8) (l : Bytes) : splitOn1 sep l ≠ [] := by
  cases l with
  | nil => simp [splitOn1]
  | cons c r =>
    simp only [splitOn1]
    split
    · simp
    · split <;> simp

theorem splitOn1_no_sep : ∀ (l : Bytes), (46 : UInt8) ∉ l → splitOn1 46 l = [l] := by
  intro l
  induction l with
  | nil => intro _; rfl
  | cons c r ih =>
    intro h
    have hc : c ≠ 46 := fun e => h (by rw [e]; exact List.mem_cons_self)
    have hr : (46 : UInt8) ∉ r := fun e => h (List.mem_cons_of_mem _ e)
    have hc' : (c == 46) = false := by simpa using hc
    simp only [splitOn1, hc', Bool.false_eq_true, if_false, ih hr]

namespace P

def OK {α} (m : PM α) (s : PS) (Q : α → PS → Prop) : Prop :=
  ∃ a s', m s = .ok (a, s') ∧ Q a s'

def PC {α} (m : PM α) (s : PS) (Q : α → PS → Prop) : Prop := ∀ a s', m s = .ok (a, s') → Q a s'

theorem OK_conseq {α} {m : PM α} {s : PS} {Q Q' : α → PS → Prop}
    (h : OK m s Q') (hq : ∀ a s', Q' a s' → Q a s') : OK m s Q := by
  obtain ⟨a, s', e, q⟩ := h; exact ⟨a, s', e, hq a s' q⟩

theorem PC_conseq {α} {m : PM α} {s : PS} {Q Q' : α → PS → Prop}
    (h : PC m s Q') (hq : ∀ a s', Q' a s' → Q a s') : PC m s Q := fun a s' e => hq a s' (h a s' e)

theorem OK_iff_PC {α} {m : PM α} {s : PS} {Q : α → PS → Prop} : OK m s Q ↔ OK m s (fun _ _ => True) ∧ PC m s Q :=
  ⟨fun ⟨a, s', e, q⟩ => ⟨⟨a, s', e, trivial⟩, fun _ _ e' => by rw [e] at e'; cases e'; exact q⟩,
   fun ⟨⟨a, s', e, _⟩, pc⟩ => ⟨a, s', e, pc a s' e⟩⟩

/-- the rule of a primitive below is this with `rfl` for `h` (of the two composite ones, `skipSemicolon` and `expectPeek`,
    the rules are read off their parts) -/
theorem OK_of_run {α} {m : PM α} {s s' : PS} {a : α} (h : m s = .ok (a, s')) (Q : α → PS → Prop) : OK m s Q ↔ Q a s' :=
  ⟨fun ⟨_, _, e, q⟩ => by rw [h] at e; cases e; exact q, fun q => ⟨a, s', h, q⟩⟩

theorem PC_of_run {α} {m : PM α} {s s' : PS} {a : α} (h : m s = .ok (a, s')) (Q : α → PS → Prop) : PC m s Q ↔ Q a s' :=
  ⟨fun p => p a s' h, fun q _ _ e => by rw [h] at e; cases e; exact q⟩

theorem bind_ok {α β} {m : PM α} {f : α → PM β} {s s'' : PS} {b : β} :
    (m >>= f) s = .ok (b, s'') ↔ ∃ a s', m s = .ok (a, s') ∧ f a s' = .ok (b, s'') := by
  simp only [bind, StateT.bind, Except.bind]
  cases m s with
  | error e => exact ⟨fun h => (nomatch h), fun ⟨_, _, h, _⟩ => (nomatch h)⟩
  | ok r => exact ⟨fun h => ⟨r.1, r.2, rfl, h⟩, fun ⟨_, _, h, h'⟩ => by cases h; exact h'⟩

@[simp] theorem OK_bind {α β} (m : PM α) (f : α → PM β) (s : PS) (Q : β → PS → Prop) :
    OK (m >>= f) s Q ↔ OK m s (fun a s' => OK (f a) s' Q) :=
  ⟨fun ⟨b, s'', e, q⟩ => have ⟨a, s', e1, e2⟩ := bind_ok.mp e; ⟨a, s', e1, b, s'', e2, q⟩,
   fun ⟨a, s', e1, b, s'', e2, q⟩ => ⟨b, s'', bind_ok.mpr ⟨a, s', e1, e2⟩, q⟩⟩

@[simp] theorem PC_bind {α β} (m : PM α) (f : α → PM β) (s : PS) (Q : β → PS → Prop) :
    PC (m >>= f) s Q ↔ PC m s (fun a s' => PC (f a) s' Q) :=
  ⟨fun h a s' e1 b s'' e2 => h b s'' (bind_ok.mpr ⟨a, s', e1, e2⟩),
   fun h b s'' e => have ⟨a, s', e1, e2⟩ := bind_ok.mp e; h a s' e1 b s'' e2⟩

theorem not_OK_throw {α} (e : PFail) (s : PS) (Q : α → PS → Prop) : ¬ OK (throw e : PM α) s Q :=
  fun ⟨_, _, h, _⟩ => nomatch (h : Except.error e = _)

@[simp] theorem PC_throw {α} (e : PFail) (s : PS) (Q : α → PS → Prop) : PC (throw e : PM α) s Q ↔ True :=
  ⟨fun _ => trivial, fun _ _ _ h => nomatch (h : Except.error e = _)⟩

@[simp] theorem OK_ite {α} (c : Prop) [Decidable c] (m1 m2 : PM α) (s : PS) (Q : α → PS → Prop) :
    OK (if c then m1 else m2) s Q ↔ (if c then OK m1 s Q else OK m2 s Q) := by
  split <;> rfl
@[simp] theorem PC_ite {α} (c : Prop) [Decidable c] (m1 m2 : PM α) (s : PS) (Q : α → PS → Prop) :
    PC (if c then m1 else m2) s Q ↔ (if c then PC m1 s Q else PC m2 s Q) := by
  split <;> rfl

/-- a proposition that is an `if` at its head, entered without `split` (which would rewrite the whole goal) -/
theorem ite_intro {c : Prop} [Decidable c] {A B : Prop} (h1 : c → A) (h2 : ¬c → B) : if c then A else B := by
  split
  · exact h1 ‹_›
  · exact h2 ‹_›

@[simp] theorem OK_pure {α} (a : α) (s : PS) (Q : α → PS → Prop) : OK (pure a) s Q ↔ Q a s := OK_of_run rfl Q
@[simp] theorem OK_get (s : PS) (Q : PS → PS → Prop) : OK (get : PM PS) s Q ↔ Q s s := OK_of_run rfl Q
@[simp] theorem OK_set (s s1 : PS) (Q : Unit → PS → Prop) : OK (set s1 : PM Unit) s Q ↔ Q () s1 := OK_of_run rfl Q
@[simp] theorem OK_modify (f : PS → PS) (s : PS) (Q : Unit → PS → Prop) : OK (modify f : PM Unit) s Q ↔ Q () (f s) :=
  OK_of_run rfl Q
@[simp] theorem OK_cur (s : PS) (Q : Token → PS → Prop) : OK cur s Q ↔ Q (tokAt s s.pos) s := OK_of_run rfl Q
@[simp] theorem OK_peek (s : PS) (Q : Token → PS → Prop) : OK peek s Q ↔ Q (tokAt s (s.pos + 1)) s := OK_of_run rfl Q
@[simp] theorem OK_nextTok (s : PS) (Q : Unit → PS → Prop) : OK nextTok s Q ↔ Q () { s with pos := s.pos + 1 } :=
  OK_of_run rfl Q
@[simp] theorem OK_curIs (t : TT) (s : PS) (Q : Bool → PS → Prop) : OK (curIs t) s Q ↔ Q ((tokAt s s.pos).type == t) s :=
  OK_of_run rfl Q
@[simp] theorem OK_peekIs (t : TT) (s : PS) (Q : Bool → PS → Prop) :
    OK (peekIs t) s Q ↔ Q ((tokAt s (s.pos + 1)).type == t) s := OK_of_run rfl Q
@[simp] theorem OK_addErr (ln : Option Nat) (k : String) (s : PS) (Q : Unit → PS → Prop) :
    OK (addErr ln k) s Q ↔ Q () { s with errs := s.errs.push { line := ln, kind := k } } := OK_of_run rfl Q
@[simp] theorem OK_errHere (k : String) (s : PS) (Q : Unit → PS → Prop) :
    OK (errHere k) s Q ↔ Q () { s with errs := s.errs.push { line := some (tokAt s s.pos).line, kind := k } } :=
  OK_of_run rfl Q
@[simp] theorem OK_peekPrecedence (s : PS) (Q : Nat → PS → Prop) :
    OK peekPrecedence s Q ↔ Q (precOf (tokAt s (s.pos + 1)).type) s := OK_of_run rfl Q
@[simp] theorem OK_curPrecedence (s : PS) (Q : Nat → PS → Prop) :
    OK curPrecedence s Q ↔ Q (precOf (tokAt s s.pos).type) s := OK_of_run rfl Q

@[simp] theorem PC_pure {α} (a : α) (s : PS) (Q : α → PS → Prop) : PC (pure a) s Q ↔ Q a s := PC_of_run rfl Q
@[simp] theorem PC_get (s : PS) (Q : PS → PS → Prop) : PC (get : PM PS) s Q ↔ Q s s := PC_of_run rfl Q
@[simp] theorem PC_set (s s1 : PS) (Q : Unit → PS → Prop) : PC (set s1 : PM Unit) s Q ↔ Q () s1 := PC_of_run rfl Q
@[simp] theorem PC_modify (f : PS → PS) (s : PS) (Q : Unit → PS → Prop) : PC (modify f : PM Unit) s Q ↔ Q () (f s) :=
  PC_of_run rfl Q
@[simp] theorem PC_cur (s : PS) (Q : Token → PS → Prop) : PC cur s Q ↔ Q (tokAt s s.pos) s := PC_of_run rfl Q
@[simp] theorem PC_peek (s : PS) (Q : Token → PS → Prop) : PC peek s Q ↔ Q (tokAt s (s.pos + 1)) s := PC_of_run rfl Q
@[simp] theorem PC_nextTok (s : PS) (Q : Unit → PS → Prop) : PC nextTok s Q ↔ Q () { s with pos := s.pos + 1 } :=
  PC_of_run rfl Q
@[simp] theorem PC_curIs (t : TT) (s : PS) (Q : Bool → PS → Prop) : PC (curIs t) s Q ↔ Q ((tokAt s s.pos).type == t) s :=
  PC_of_run rfl Q
@[simp] theorem PC_peekIs (t : TT) (s : PS) (Q : Bool → PS → Prop) :
    PC (peekIs t) s Q ↔ Q ((tokAt s (s.pos + 1)).type == t) s := PC_of_run rfl Q
@[simp] theorem PC_addErr (ln : Option Nat) (k : String) (s : PS) (Q : Unit → PS → Prop) :
    PC (addErr ln k) s Q ↔ Q () { s with errs := s.errs.push { line := ln, kind := k } } := PC_of_run rfl Q
@[simp] theorem PC_errHere (k : String) (s : PS) (Q : Unit → PS → Prop) :
    PC (errHere k) s Q ↔ Q () { s with errs := s.errs.push { line := some (tokAt s s.pos).line, kind := k } } :=
  PC_of_run rfl Q
@[simp] theorem PC_peekPrecedence (s : PS) (Q : Nat → PS → Prop) :
    PC peekPrecedence s Q ↔ Q (precOf (tokAt s (s.pos + 1)).type) s := PC_of_run rfl Q
@[simp] theorem PC_curPrecedence (s : PS) (Q : Nat → PS → Prop) :
    PC curPrecedence s Q ↔ Q (precOf (tokAt s s.pos).type) s := PC_of_run rfl Q

theorem OK_skipSemicolon (s : PS) (Q : Unit → PS → Prop) :
    OK skipSemicolon s Q ↔ (if ((tokAt s (s.pos + 1)).type == TT.SEMICOLON) = true then Q () { s with pos := s.pos + 1 } else Q () s) := by
  simp only [skipSemicolon, OK_bind, OK_peekIs, OK_ite, OK_nextTok, OK_pure]
theorem PC_skipSemicolon (s : PS) (Q : Unit → PS → Prop) :
    PC skipSemicolon s Q ↔ (if ((tokAt s (s.pos + 1)).type == TT.SEMICOLON) = true then Q () { s with pos := s.pos + 1 } else Q () s) := by
  simp only [skipSemicolon, PC_bind, PC_peekIs, PC_ite, PC_nextTok, PC_pure]

theorem OK_expectPeek (t : TT) (s : PS) (Q : Bool → PS → Prop) :
    OK (expectPeek t) s Q ↔ (if ((tokAt s (s.pos + 1)).type == t) = true then Q true { s with pos := s.pos + 1 }
      else Q false { s with errs := s.errs.push { line := some (tokAt s s.pos).line, kind := "expected-next-token" } }) := by
  simp only [expectPeek, OK_bind, OK_peekIs, OK_ite, OK_nextTok, OK_pure, OK_errHere]
theorem PC_expectPeek (t : TT) (s : PS) (Q : Bool → PS → Prop) :
    PC (expectPeek t) s Q ↔ (if ((tokAt s (s.pos + 1)).type == t) = true then Q true { s with pos := s.pos + 1 }
      else Q false { s with errs := s.errs.push { line := some (tokAt s s.pos).line, kind := "expected-next-token" } }) := by
  simp only [expectPeek, PC_bind, PC_peekIs, PC_ite, PC_nextTok, PC_pure, PC_errHere]

/-- turns the body of a parse function into what it asks of the start state: `if`s over the token tests, calls at
    smaller fuel under `OK` / `PC`, the postcondition at the leaves -/
macro "wp_simp" : tactic => `(tactic| simp only [OK_bind, OK_cur, OK_peek, OK_nextTok, OK_pure, OK_curIs, OK_peekIs,
  OK_addErr, OK_errHere, OK_peekPrecedence, OK_curPrecedence, OK_ite, OK_get, OK_set, OK_modify, OK_skipSemicolon, OK_expectPeek,
  PC_bind, PC_cur, PC_peek, PC_nextTok, PC_pure, PC_curIs, PC_peekIs, PC_addErr, PC_errHere, PC_peekPrecedence, PC_curPrecedence,
  PC_ite, PC_get, PC_set, PC_modify, PC_skipSemicolon, PC_expectPeek,
  Bool.not_true, Bool.not_false, Bool.false_eq_true, if_false, if_true, if_true_left, if_true_right,
  not_true_eq_false, not_false_eq_true, true_imp_iff, false_imp_iff, implies_true])

/-- a result computed by the rules, back as an equation -/
theorem run_of_OK {α} {m : PM α} {s : PS} {r : α × PS} (h : OK m s fun a s' => (a, s') = r) : m.run s = .ok r := by
  obtain ⟨a, s', e, rfl⟩ := h; exact e

/-- the frame of every parse function: token source untouched, cursor only forward -/
structure Fr (s s' : PS) : Prop where
  toks : s'.toks = s.toks
  eof : s'.eof = s.eof
  pos : s.pos ≤ s'.pos

theorem Fr.refl (s : PS) : Fr s s := ⟨rfl, rfl, Nat.le_refl _⟩
theorem Fr.trans {a c d : PS} (h1 : Fr a c) (h2 : Fr c d) : Fr a d :=
  ⟨h2.toks.trans h1.toks, h2.eof.trans h1.eof, Nat.le_trans h1.pos h2.pos⟩
theorem Fr.step (s : PS) : Fr s { s with pos := s.pos + 1 } := ⟨rfl, rfl, Nat.le_succ _⟩
theorem Fr.size {s s' : PS} (h : Fr s s') : s'.toks.size = s.toks.size := by rw [h.toks]
theorem Fr.tokAt {s s' : PS} (h : Fr s s') (i : Nat) : tokAt s' i = tokAt s i := by
  simp [P.tokAt, h.toks, h.eof]

def rem (s : PS) : Nat := s.toks.size - s.pos

/-- once the array is exhausted the lexer answers EOF for ever (Theorem A: `C03_lexer_stream_ends`) -/
def EofOK (s : PS) : Prop := s.eof.type = .EOF

theorem Fr.eofOK {s s' : PS} (h : Fr s s') (e : EofOK s) : EofOK s' := by unfold EofOK; rw [h.eof]; exact e

theorem lt_size_of_ne_eof {s : PS} (e : EofOK s) {i : Nat} (h : (tokAt s i).type ≠ .EOF) : i < s.toks.size := by
  apply Nat.lt_of_not_ge; intro hge
  apply h
  simp [P.tokAt, Array.getD, Nat.not_lt.mpr hge]; exact e

theorem lt_size_of_beq {s : PS} (e : EofOK s) {i : Nat} {t : TT} (h : ((tokAt s i).type == t) = true)
    (ht : t ≠ .EOF) : i < s.toks.size := by
  apply lt_size_of_ne_eof e
  simp only [beq_iff_eq] at h; rw [h]; exact ht

/-- `K_f + C * rem s` is enough fuel for `f` started in `s` (the `K_f` are the constants in `AllOK`). `C` is the 64
    of `parseFuel`; all that is asked of it is that one consumed token pays for any callee, and every `K_f` is below it. -/
abbrev C : Nat := 64

/-- what a frame says to `omega` -/
macro "unfr" h:ident : tactic => `(tactic| (have fp := Fr.pos $h; have fs := Fr.size $h))
/-- the budget side conditions: linear arithmetic once `rem` and `C` are unfolded -/
macro "fuel_tac" : tactic => `(tactic| (simp only [rem, C] at *; omega))

/-- `runPrefix`, `runInfix`, `parseExpressionList` and `hashLoop` call functions of larger `K` than their own: they
    are entered with the cursor inside the array (on the token their caller has just matched), and consuming that
    token pays -/
structure AllOK (n : Nat) : Prop where
  stmt : ∀ s, EofOK s → 18 + C * rem s ≤ n → OK (parseStatement n) s (fun _ s' => Fr s s')
  ret : ∀ s o, EofOK s → 16 + C * rem s ≤ n → OK (parseReturnStatement n o) s (fun _ s' => Fr s s')
  let_ : ∀ s, EofOK s → 16 + C * rem s ≤ n → OK (parseLetStatement n) s (fun _ s' => Fr s s')
  exprStmt : ∀ s, EofOK s → 16 + C * rem s ≤ n → OK (parseExpressionStatement n) s (fun _ s' => Fr s s')
  expr : ∀ s p, EofOK s → 14 + C * rem s ≤ n → OK (parseExpression n p) s (fun _ s' => Fr s s')
  infixLoop : ∀ s p l, EofOK s → 12 + C * rem s ≤ n → OK (infixLoop n p l) s (fun _ s' => Fr s s')
  runPrefix : ∀ s f, EofOK s → s.pos < s.toks.size → 12 + C * rem s ≤ n → OK (runPrefix n f) s (fun _ s' => Fr s s')
  comment : ∀ s, EofOK s → 8 + C * rem s ≤ n → OK (commentLoop n) s (fun _ s' => Fr s s')
  runInfix : ∀ s f l, EofOK s → s.pos < s.toks.size → 10 + C * rem s ≤ n → OK (runInfix n f l) s (fun _ s' => Fr s s')
  exprList : ∀ s t, EofOK s → s.pos < s.toks.size → 8 + C * rem s ≤ n → OK (parseExpressionList n t) s (fun _ s' => Fr s s')
  exprListLoop : ∀ s a, EofOK s → 6 + C * rem s ≤ n → OK (exprListLoop n a) s (fun _ s' => Fr s s')
  hash : ∀ s t a, EofOK s → s.pos < s.toks.size → 8 + C * rem s ≤ n → OK (hashLoop n t a) s (fun _ s' => Fr s s')
  params : ∀ s, EofOK s → 8 + C * rem s ≤ n → OK (parseFunctionParameters n) s (fun _ s' => Fr s s')
  paramLoop : ∀ s a, EofOK s → 6 + C * rem s ≤ n → OK (paramLoop n a) s (fun _ s' => Fr s s')
  block : ∀ s, EofOK s → 22 + C * rem s ≤ n → OK (parseBlockStatement n) s (fun _ s' => Fr s s')
  blockLoop : ∀ s a, EofOK s → 20 + C * rem s ≤ n → OK (blockLoop n a) s (fun _ s' => Fr s s')
  if_ : ∀ s, EofOK s → 8 + C * rem s ≤ n → OK (parseIfExpression n) s (fun _ s' => Fr s s')
  elseLoop : ∀ s t c b e l, EofOK s → 6 + C * rem s ≤ n → OK (elseLoop n t c b e l) s (fun _ s' => Fr s s')
  for_ : ∀ s, EofOK s → 8 + C * rem s ≤ n → OK (parseForExpression n) s (fun _ s' => Fr s s')
  forNames : ∀ s ln a, EofOK s → 6 + C * rem s ≤ n → OK (forNamesLoop n ln a) s (fun _ s' => Fr s s')

def _root_.Plush.PS.at (s : PS) (i : Nat) : PS := { s with pos := i }

@[simp] theorem tokAt_at (s : PS) (i j : Nat) : tokAt (s.at i) j = tokAt s j := rfl
@[simp] theorem at_pos (s : PS) (i : Nat) : (s.at i).pos = i := rfl
@[simp] theorem at_at (s : PS) (i j : Nat) : (s.at i).at j = s.at j := rfl
@[simp] theorem at_toks (s : PS) (i : Nat) : (s.at i).toks = s.toks := rfl
theorem at_self (s : PS) : s.at s.pos = s := rfl
theorem Fr.at (s : PS) {i : Nat} (h : s.pos ≤ i) : Fr s (s.at i) := ⟨rfl, rfl, h⟩

/-- a token type registered in a table is not one that has no entry there (`hn`: read off the generated table by
    `decide` at each use) -/
theorem lookupLast_ne {β} {tbl : List (TT × β)} {t t' : TT} {v : β} (h : lookupLast t tbl = some v)
    (hn : lookupLast t' tbl = none) : t ≠ t' :=
  fun e => by rw [e, hn] at h; cases h

theorem lookupLast_mem {β} {t : TT} {v : β} : ∀ {l : List (TT × β)}, lookupLast t l = some v → (t, v) ∈ l
  | (k, w) :: r, h => by
    unfold lookupLast at h
    split at h
    · rename_i x hx; cases h; exact List.mem_cons_of_mem _ (lookupLast_mem hx)
    · split at h
      · rename_i hk; cases h; rw [beq_iff_eq.mp hk]; exact List.mem_cons_self
      · cases h

theorem type_ne {t : Token} {a b : TT} (h : t.type = a) (hab : a ≠ b) : t.type ≠ b := h ▸ hab

def Appends (a b : Array PErr) : Prop := ∃ l : List PErr, b.toList = a.toList ++ l ∧ ∀ e ∈ l, e.line.isSome = true

theorem Appends.refl (a : Array PErr) : Appends a a := ⟨[], by simp, by simp⟩
theorem Appends.trans {a b c : Array PErr} : Appends a b → Appends b c → Appends a c
  | ⟨l, e, h⟩, ⟨l', e', h'⟩ => ⟨l ++ l', by rw [e', e, List.append_assoc], fun x hx => (List.mem_append.mp hx).elim (h x) (h' x)⟩
theorem Appends.push (a : Array PErr) (ln : Nat) (k : String) : Appends a (a.push { line := some ln, kind := k }) :=
  ⟨[{ line := some ln, kind := k }], by simp, by simp⟩
theorem Appends.size {a b : Array PErr} : Appends a b → a.size ≤ b.size
  | ⟨l, e, _⟩ => by have := congrArg List.length e; simp at this; omega

theorem confirm_appends (line : Nat) (e : Option Expr) (errs : Array PErr) : Appends errs (confirmIfCondition line e errs).2 := by
  fun_induction confirmIfCondition line e errs
  case case1 => exact .push ..
  case case2 => exact .push ..
  case case3 x _ _ ih => rw [x] at ih; exact ih
  case case4 x1 _ _ _ x2 _ ih1 ih2 => rw [x1] at ih1; rw [x2] at ih2; exact ih1.trans ih2
  case case5 ih => exact ih
  case case6 => exact .refl _

theorem confirm_false_adds (line : Nat) (e : Option Expr) (errs : Array PErr)
    (h : (confirmIfCondition line e errs).1 = false) : errs.size < (confirmIfCondition line e errs).2.size := by
  fun_induction confirmIfCondition line e errs
  case case1 => simp
  case case2 => simp
  case case3 x hn _ ih => rw [x] at ih; exact ih (by simpa using hn)
  case case4 errs0 _ _ l _ _ errs1 x1 _ _ _ x2 _ _ ih2 =>
    rw [x2] at ih2
    exact Nat.lt_of_le_of_lt (show errs0.size ≤ errs1.size by simpa only [x1] using (confirm_appends line l errs0).size) (ih2 h)
  case case5 ih => exact ih h
  case case6 => cases h

/-- the state `parseToks` (`parser.Parse`) starts from -/
def start (toks : Array Token) : PS := { toks := toks, eof := toks.back?.getD { type := .EOF, lit := [], line := 1 } }

theorem parseToks_of_OK {toks : Array Token} {Q : List Stmt → PS → Prop}
    (h : OK (programLoop (toks.size + 4) (parseFuel toks.size) []) (start toks) Q) :
    ∃ ss s, parseToks toks = .ok ({ stmts := ss }, s.errs) ∧ Q ss s := by
  obtain ⟨ss, s, e, q⟩ := h
  refine ⟨ss, s, ?_, q⟩
  unfold start at e
  unfold parseToks; simp only [StateT.run]; rw [e]

theorem parseToks_PC {toks : Array Token} {Q : List Stmt → PS → Prop} {prog : Program} {errs : Array PErr}
    (h : PC (programLoop (toks.size + 4) (parseFuel toks.size) []) (start toks) Q)
    (hp : parseToks toks = .ok (prog, errs)) : ∃ s, Q prog.stmts s ∧ s.errs = errs := by
  unfold parseToks at hp
  simp only at hp
  split at hp
  · rename_i ss s hrun
    cases hp
    exact ⟨s, h ss s hrun, rfl⟩
  · cases hp

end P
end Plush
