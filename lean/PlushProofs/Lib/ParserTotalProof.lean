import PlushProofs.Lib.ParserWalk
import PlushProofs.Lib.LexerTotal
/-!
  Theorem B: no parse function runs out of fuel when its budget covers `K_f + 64·(tokens left)`. That every function
  keeps the frame `Fr` is an instance of the walk of `ParserWalk`; what is shown here, function by function, is that it
  returns: a recursive call either goes to a function with a smaller constant `K_f`, or comes after a token that is
  not EOF has been consumed, which pays for any callee.
-/
namespace Plush
namespace P

theorem fr_closed : Closed Fr where
  refl := Fr.refl
  trans := Fr.trans
  next := Fr.step
  err _ _ _ := ⟨rfl, rfl, Nat.le_refl _⟩
  confirm _ _ _ := ⟨rfl, rfl, Nat.le_refl _⟩
  flag _ r := ⟨r.toks, r.eof, r.pos⟩

theorem frames (n : Nat) : All Fr n := fr_closed.all n

theorem OK_frame {α} {m : PM α} {s : PS} (t : OK m s (fun _ _ => True)) (p : Pres Fr m) : OK m s (fun _ s' => Fr s s') :=
  OK_iff_PC.mpr ⟨t, p s⟩

theorem OK.term {α} {m : PM α} {s : PS} {Q : α → PS → Prop} (h : OK m s Q) : OK m s (fun _ _ => True) :=
  OK_conseq h fun _ _ _ => trivial

theorem step_comment (n : Nat) (ih : AllOK n) :
    ∀ s, EofOK s → 8 + C * rem s ≤ n + 1 → OK (commentLoop (n+1)) s (fun _ s' => Fr s s') := by
  intro s e hf
  refine OK_frame ?_ (frames _).comment
  rw [commentLoop_eq]
  wp_simp
  intro h
  simp only [Bool.and_eq_true, bne_iff_ne, ne_eq] at h
  have hlt := lt_size_of_ne_eof e h.2
  exact OK.term (ih.comment _ e (by fuel_tac))

theorem step_paramLoop (n : Nat) (ih : AllOK n) :
    ∀ s a, EofOK s → 6 + C * rem s ≤ n + 1 → OK (paramLoop (n+1) a) s (fun _ s' => Fr s s') := by
  intro s a e hf
  refine OK_frame ?_ ((frames _).paramLoop a)
  rw [paramLoop_eq]
  wp_simp
  intro h
  have hlt := lt_size_of_beq e h (by decide)
  exact OK.term (ih.paramLoop _ _ e (by fuel_tac))

theorem step_forNames (n : Nat) (ih : AllOK n) :
    ∀ s ln a, EofOK s → 6 + C * rem s ≤ n + 1 → OK (forNamesLoop (n+1) ln a) s (fun _ s' => Fr s s') := by
  intro s ln a e hf
  refine OK_frame ?_ ((frames _).forNames ln a)
  rw [forNamesLoop_eq]
  wp_simp
  intro _ h
  simp only [Bool.or_eq_true, beq_iff_eq, not_or] at h
  have hlt := lt_size_of_ne_eof e h.2
  exact OK.term (ih.forNames _ _ _ e (by fuel_tac))

theorem step_params (n : Nat) (ih : AllOK n) :
    ∀ s, EofOK s → 8 + C * rem s ≤ n + 1 → OK (parseFunctionParameters (n+1)) s (fun _ s' => Fr s s') := by
  intro s e hf
  refine OK_frame ?_ (frames _).params
  rw [parseFunctionParameters_eq]
  wp_simp
  exact fun _ => OK.term (ih.paramLoop _ _ e (by fuel_tac))

theorem step_stmt (n : Nat) (ih : AllOK n) :
    ∀ s, EofOK s → 18 + C * rem s ≤ n + 1 → OK (parseStatement (n+1)) s (fun _ s' => Fr s s') := by
  intro s e hf
  refine OK_frame ?_ (frames _).stmt
  rw [parseStatement_eq]
  wp_simp
  split <;> wp_simp
  · exact OK.term (ih.let_ _ e (by fuel_tac))
  · rename_i h
    have hlt := lt_size_of_ne_eof (i := s.pos) e (by rw [h]; decide)
    exact OK.term (ih.stmt _ e (by fuel_tac))
  · exact OK.term (ih.ret _ _ e (by fuel_tac))
  · exact OK.term (ih.ret _ _ e (by fuel_tac))
  · exact OK.term (ih.exprStmt _ e (by fuel_tac))

theorem step_ret (n : Nat) (ih : AllOK n) :
    ∀ s o, EofOK s → 16 + C * rem s ≤ n + 1 → OK (parseReturnStatement (n+1) o) s (fun _ s' => Fr s s') := by
  intro s o e hf
  refine OK_frame ?_ ((frames _).ret o)
  rw [parseReturnStatement_eq]
  wp_simp
  exact OK.term (ih.expr _ _ e (by fuel_tac))

theorem step_exprStmt (n : Nat) (ih : AllOK n) :
    ∀ s, EofOK s → 16 + C * rem s ≤ n + 1 → OK (parseExpressionStatement (n+1)) s (fun _ s' => Fr s s') := by
  intro s e hf
  refine OK_frame ?_ (frames _).exprStmt
  rw [parseExpressionStatement_eq]
  wp_simp
  exact OK.term (ih.expr _ _ e (by fuel_tac))

theorem step_let (n : Nat) (ih : AllOK n) :
    ∀ s, EofOK s → 16 + C * rem s ≤ n + 1 → OK (parseLetStatement (n+1)) s (fun _ s' => Fr s s') := by
  intro s e hf
  refine OK_frame ?_ (frames _).let_
  rw [parseLetStatement_eq]
  wp_simp
  intro h _
  have hlt := lt_size_of_beq e h (by decide)
  exact OK.term (ih.expr _ _ e (by fuel_tac))

/- By evaluating the tables, so stated in front of the section that seals them. -/

theorem prefix_ne_eof {t : TT} {f : Gen.PrefixFn} (h : lookupLast t Gen.prefixFns = some f) : t ≠ .EOF := lookupLast_ne h (by decide)
theorem infix_ne_eof {t : TT} {f : Gen.InfixFn} (h : lookupLast t Gen.infixFns = some f) : t ≠ .EOF := lookupLast_ne h (by decide)

section
-- the registration tables are met only through `lookupLast … = some f`; unfolding them helps no step below
attribute [local irreducible] Gen.prefixFns Gen.infixFns Gen.precedences

theorem step_expr (n : Nat) (ih : AllOK n) :
    ∀ s p, EofOK s → 14 + C * rem s ≤ n + 1 → OK (parseExpression (n+1) p) s (fun _ s' => Fr s s') := by
  intro s p e hf
  refine OK_frame ?_ ((frames _).expr p)
  rw [parseExpression_eq]
  wp_simp
  intro _
  split <;> wp_simp
  rename_i f hfn
  have hlt := lt_size_of_ne_eof e (prefix_ne_eof hfn)
  refine OK_conseq (ih.runPrefix _ _ e hlt (by fuel_tac)) ?_
  intro a s2 fr; unfr fr
  exact OK.term (ih.infixLoop _ _ _ (fr.eofOK e) (by fuel_tac))

theorem step_infixLoop (n : Nat) (ih : AllOK n) :
    ∀ s p l, EofOK s → 12 + C * rem s ≤ n + 1 → OK (infixLoop (n+1) p l) s (fun _ s' => Fr s s') := by
  intro s p l e hf
  refine OK_frame ?_ ((frames _).infixLoop p l)
  rw [infixLoop_eq]
  wp_simp
  intro _
  split <;> wp_simp
  rename_i f hfn
  have hlt := lt_size_of_ne_eof e (infix_ne_eof hfn)
  refine OK_conseq (ih.runInfix _ _ _ e hlt (by fuel_tac)) ?_
  intro a s2 fr; unfr fr
  exact OK.term (ih.infixLoop _ _ _ (fr.eofOK e) (by fuel_tac))

theorem step_exprListLoop (n : Nat) (ih : AllOK n) :
    ∀ s a, EofOK s → 6 + C * rem s ≤ n + 1 → OK (exprListLoop (n+1) a) s (fun _ s' => Fr s s') := by
  intro s a e hf
  refine OK_frame ?_ ((frames _).exprListLoop a)
  rw [exprListLoop_eq]
  wp_simp
  intro h
  have hlt := lt_size_of_beq e h (by decide)
  refine OK_conseq (ih.expr _ _ e (by fuel_tac)) ?_
  intro a s2 fr; unfr fr
  exact OK.term (ih.exprListLoop _ _ (fr.eofOK e) (by fuel_tac))

theorem step_exprList (n : Nat) (ih : AllOK n) :
    ∀ s t, EofOK s → s.pos < s.toks.size → 8 + C * rem s ≤ n + 1 → OK (parseExpressionList (n+1) t) s (fun _ s' => Fr s s') := by
  intro s t e hlt hf
  refine OK_frame ?_ ((frames _).exprList t)
  rw [parseExpressionList_eq]
  wp_simp
  intro _
  refine OK_conseq (ih.expr _ _ e (by fuel_tac)) ?_
  intro a s2 fr; unfr fr
  exact OK.term (ih.exprListLoop _ _ (fr.eofOK e) (by fuel_tac))

theorem step_block (n : Nat) (ih : AllOK n) :
    ∀ s, EofOK s → 22 + C * rem s ≤ n + 1 → OK (parseBlockStatement (n+1)) s (fun _ s' => Fr s s') := by
  intro s e hf
  refine OK_frame ?_ (frames _).block
  rw [parseBlockStatement_eq]
  wp_simp
  exact OK.term (ih.blockLoop _ _ e (by fuel_tac))

theorem step_blockLoop (n : Nat) (ih : AllOK n) :
    ∀ s a, EofOK s → 20 + C * rem s ≤ n + 1 → OK (blockLoop (n+1) a) s (fun _ s' => Fr s s') := by
  intro s a e hf
  refine OK_frame ?_ ((frames _).blockLoop a)
  rw [blockLoop_eq]
  wp_simp
  intro h
  simp only [Bool.and_eq_true, bne_iff_ne, ne_eq] at h
  have hlt := lt_size_of_ne_eof e h.2
  refine ite_intro (fun _ => OK.term (ih.blockLoop _ _ e (by fuel_tac))) (fun _ => ?_)
  refine OK_conseq (ih.stmt _ e (by fuel_tac)) ?_
  intro a s2 fr; unfr fr
  exact OK.term (ih.blockLoop _ _ (fr.eofOK e) (by fuel_tac))

theorem step_runPrefix (n : Nat) (ih : AllOK n) :
    ∀ s f, EofOK s → s.pos < s.toks.size → 12 + C * rem s ≤ n + 1 → OK (runPrefix (n+1) f) s (fun _ s' => Fr s s') := by
  intro s f e hlt hf
  refine OK_frame ?_ ((frames _).runPrefix f)
  rw [runPrefix_eq]
  wp_simp
  cases f <;> wp_simp
  case parseIdentifier =>
    -- `parseAssignExpression` expects the `=` it has just seen
    intro h
    rw [if_pos h]
    exact OK.term (ih.expr _ _ e (by fuel_tac))
  case parseIntegerLiteral => split <;> wp_simp
  case parseCommentLiteral => exact OK.term (ih.comment _ e (by fuel_tac))
  case parsePrefixExpression => exact OK.term (ih.expr _ _ e (by fuel_tac))
  case parseGroupedExpression => exact OK.term (ih.expr _ _ e (by fuel_tac))
  case parseIfExpression => exact OK.term (ih.if_ _ e (by fuel_tac))
  case parseForExpression => exact OK.term (ih.for_ _ e (by fuel_tac))
  case parseFunctionLiteral =>
    intro _
    refine OK_conseq (ih.params _ e (by fuel_tac)) ?_
    intro a s2 fr _; unfr fr
    exact OK.term (ih.block _ (fr.eofOK e) (by fuel_tac))
  case parseArrayLiteral => exact OK.term (ih.exprList _ _ e hlt (by fuel_tac))
  case parseHashLiteral => exact OK.term (ih.hash _ _ _ e hlt (by fuel_tac))

theorem assignCallee_ok (pe : Option Expr) (v : Bytes) (s : PS) : OK (assignCallee pe v) s (fun _ s' => Fr s s') :=
  OK_frame (by unfold assignCallee; split <;> wp_simp) (Pres.assignCallee fr_closed pe v)

theorem step_runInfix (n : Nat) (ih : AllOK n) :
    ∀ s f l, EofOK s → s.pos < s.toks.size → 10 + C * rem s ≤ n + 1 → OK (runInfix (n+1) f l) s (fun _ s' => Fr s s') := by
  intro s f l e hlt hf
  refine OK_frame ?_ ((frames _).runInfix f l)
  rw [runInfix_eq]
  wp_simp
  -- the operator token is consumed before anything is called: from any later state `parseExpression` is paid for
  have expr : ∀ s3 p, Fr s s3 → OK (parseExpression n p) { s3 with pos := s3.pos + 1 + 1 } (fun _ s' => Fr s s') := by
    intro s3 p fr3; unfr fr3
    exact OK_conseq (ih.expr _ _ (fr3.eofOK e) (by fuel_tac)) fun _ _ fr' => fr3.trans (.trans (.at _ (by omega)) fr')
  cases f <;> wp_simp
  case parseInfixExpression => exact OK.term (ih.expr _ _ e (by fuel_tac))
  case parseCallExpression =>
    cases l <;> wp_simp
    refine OK_conseq (ih.exprList _ _ e hlt (by fuel_tac)) ?_
    intro args s2 fr; unfr fr
    -- `.name…` after the call, with or without a block in between
    have tail : ∀ (s3 : PS) (k : Option Expr → PM (Option Expr)) (v : Bytes), Fr s s3 → (∀ r s, OK (k r) s fun _ _ => True) →
        ((tokAt s3 (s3.pos + 1)).type == TT.DOT) = true →
          OK (parseExpression n Gen.LOWEST) { s3 with pos := s3.pos + 1 + 1 } fun pe s4 =>
            OK (assignCallee pe v) s4 fun r s5 => OK (k r) s5 fun _ _ => True :=
      fun s3 k v fr3 hk _ => OK_conseq (expr s3 _ fr3) fun pe s4 _ => OK_conseq (assignCallee_ok ..) fun r s5 _ => hk r s5
    refine ite_intro (fun _ => ?_) (fun _ => tail s2 _ _ fr fun r _ => by cases r <;> wp_simp)
    refine OK_conseq (ih.block _ (fr.eofOK e) (by fuel_tac)) ?_
    intro blk s3 fr3
    exact tail s3 _ _ (fr.trans (.trans (Fr.step _) fr3)) fun r _ => by cases r <;> wp_simp
  case parseIndexExpression =>
    cases l <;> wp_simp
    refine OK_conseq (ih.expr _ _ e (by fuel_tac)) ?_
    intro ix s2 fr
    have fr2 : Fr s s2 := (Fr.step s).trans fr
    intro _
    -- `= value` after the index, with or without `.name` in between
    have value : ∀ s3, Fr s s3 → ((tokAt s3 (s3.pos + 1)).type == TT.ASSIGN) = true →
        OK (parseExpression n Gen.LOWEST) { s3 with pos := s3.pos + 1 + 1 } (fun _ _ => True) :=
      fun s3 fr3 _ => OK.term (expr s3 _ fr3)
    refine ite_intro (fun _ => ?_) (fun _ => value _ (fr2.trans (Fr.step s2)))
    refine OK_conseq (expr _ _ (fr2.trans (Fr.step s2))) ?_
    intro pe s4 fr4
    refine OK_conseq (assignCallee_ok ..) ?_
    intro r s5 fr5
    cases r <;> wp_simp
    exact value s5 (fr4.trans fr5)

theorem step_hash (n : Nat) (ih : AllOK n) :
    ∀ s t a, EofOK s → s.pos < s.toks.size → 8 + C * rem s ≤ n + 1 → OK (hashLoop (n+1) t a) s (fun _ s' => Fr s s') := by
  intro s t a e hlt hf
  refine OK_frame ?_ ((frames _).hash t a)
  rw [hashLoop_eq]
  wp_simp
  intro _
  refine OK_conseq (ih.expr _ _ e (by fuel_tac)) ?_
  intro k s2 fr _; unfr fr
  have e2 := fr.eofOK e
  refine OK_conseq (ih.expr _ _ e2 (by fuel_tac)) ?_
  intro v s3 fr3; unfr fr3
  have e3 := fr3.eofOK e2
  -- the loop goes round only with the cursor inside the array: on the `,` it has stepped to, or in front of the `}`
  -- that the next round takes
  refine ite_intro (fun _ hcm => ?_) (fun hrb => ?_)
  · have hl3 := lt_size_of_beq e3 hcm (by decide)
    exact OK.term (ih.hash _ _ _ e3 hl3 (by fuel_tac))
  · have hl3 := lt_size_of_beq e3 (t := .RBRACE) (by simpa using hrb) (by decide)
    exact OK.term (ih.hash _ _ _ e3 (by omega) (by fuel_tac))

theorem step_if (n : Nat) (ih : AllOK n) :
    ∀ s, EofOK s → 8 + C * rem s ≤ n + 1 → OK (parseIfExpression (n+1)) s (fun _ s' => Fr s s') := by
  intro s e hf
  refine OK_frame ?_ (frames _).if_
  rw [parseIfExpression_eq]
  wp_simp
  intro hlp
  have hl := lt_size_of_beq e hlp (by decide)
  refine OK_conseq (ih.expr _ _ e (by fuel_tac)) ?_
  intro c s2 fr _ _ _; unfr fr
  have e2 := fr.eofOK e
  refine OK_conseq (ih.block _ e2 (by fuel_tac)) ?_
  intro b s3 fr3; unfr fr3
  exact OK.term (ih.elseLoop _ _ _ _ _ _ (fr3.eofOK e2) (by fuel_tac))

theorem step_elseLoop (n : Nat) (ih : AllOK n) :
    ∀ s t c b el l, EofOK s → 6 + C * rem s ≤ n + 1 → OK (elseLoop (n+1) t c b el l) s (fun _ s' => Fr s s') := by
  intro s t c b el l e hf
  refine OK_frame ?_ ((frames _).elseLoop t c b el l)
  rw [elseLoop_eq]
  wp_simp
  intro hel
  have hl := lt_size_of_beq e hel (by decide)
  refine ite_intro (fun _ _ => ?_) (fun _ _ => ?_)
  · refine OK_conseq (ih.expr _ _ e (by fuel_tac)) ?_
    intro ec s2 fr _ _; unfr fr
    have e2 := fr.eofOK e
    refine OK_conseq (ih.block _ e2 (by fuel_tac)) ?_
    intro eb s3 fr3; unfr fr3
    exact OK.term (ih.elseLoop _ _ _ _ _ _ (fr3.eofOK e2) (by fuel_tac))
  · refine OK_conseq (ih.block _ e (by fuel_tac)) ?_
    intro eb s3 fr3; unfr fr3
    exact OK.term (ih.elseLoop _ _ _ _ _ _ (fr3.eofOK e) (by fuel_tac))

theorem step_for (n : Nat) (ih : AllOK n) :
    ∀ s, EofOK s → 8 + C * rem s ≤ n + 1 → OK (parseForExpression (n+1)) s (fun _ s' => Fr s s') := by
  intro s e hf
  refine OK_frame ?_ (fun s => PC_conseq ((frames _).for_ s) fun _ _ ⟨_, r⟩ => ⟨r.toks, r.eof, r.pos⟩)
  rw [parseForExpression_eq]
  wp_simp
  intro hlp
  have hl := lt_size_of_beq e hlp (by decide)
  refine OK_conseq (ih.forNames _ _ _ e (by fuel_tac)) ?_
  intro nm s2 fr; unfr fr
  have e2 := fr.eofOK e
  cases nm <;> wp_simp
  intro _
  refine OK_conseq (ih.expr _ _ e2 (by fuel_tac)) ?_
  intro it s3 fr3; unfr fr3
  split <;> wp_simp
  exact fun _ => OK.term (ih.block _ (fr3.eofOK e2) (by fuel_tac))

theorem allOK : ∀ n, AllOK n := by
  intro n
  induction n with
  | zero =>
    constructor <;> intros <;> exfalso <;> simp only [C] at * <;> omega
  | succ n ih =>
    exact ⟨step_stmt n ih, step_ret n ih, step_let n ih, step_exprStmt n ih, step_expr n ih, step_infixLoop n ih,
      step_runPrefix n ih, step_comment n ih, step_runInfix n ih, step_exprList n ih, step_exprListLoop n ih,
      step_hash n ih, step_params n ih, step_paramLoop n ih, step_block n ih, step_blockLoop n ih, step_if n ih,
      step_elseLoop n ih, step_for n ih, step_forNames n ih⟩

theorem programLoop_ok (fuel : Nat) :
    ∀ (n : Nat) (s : PS) (acc : List Stmt), EofOK s → rem s < n → 18 + C * rem s ≤ fuel →
      OK (programLoop n fuel acc) s (fun _ s' => Fr s s') := by
  intro n
  induction n with
  | zero => intro s acc _ h; omega
  | succ n ih =>
    intro s acc e hn hf
    refine OK_frame ?_ (Pres.programLoop fr_closed fuel _ acc)
    unfold programLoop
    wp_simp
    intro hne
    have hlt : s.pos < s.toks.size := lt_size_of_ne_eof e fun h0 => by rw [h0] at hne; exact absurd hne (by decide)
    refine OK_conseq ((allOK fuel).stmt _ e hf) ?_
    intro st s2 fr; unfr fr
    exact OK.term (ih _ _ (fr.eofOK e) (by fuel_tac) (by fuel_tac))

end

/-- the parser reads the lexer's token stream (`C03_parser_reads_true_stream`) -/
theorem tokAt_start (a : Array UInt8) (i : Nat) : tokAt (start (lexAll a)) i = tokenAt i (LX.new a) := lexAll_is_stream a i

end P

/-- THEOREM B. On every token array that ends in an EOF token (or is empty), the parser model returns a program and
    an error list: the depth budget `parseFuel` is never exhausted (`outOfFuel`, the model's stand-in for a
    hang or a stack overflow, is unreachable), and the model has no other failure. -/
theorem parseToks_total (toks : Array Token)
    (h : (toks.back?.getD { type := .EOF, lit := [], line := 1 }).type = .EOF) :
    ∃ r, parseToks toks = .ok r :=
  have ⟨_, _, e, _⟩ := P.parseToks_of_OK (P.programLoop_ok (parseFuel toks.size) (toks.size + 4) (P.start toks) [] h
    (by simp [P.rem, P.start]) (by simp [P.rem, P.start, parseFuel, P.C]; omega))
  ⟨_, e⟩

/-- …and therefore on every source text (Theorem A supplies the EOF tail of the token stream). -/
theorem parseBytes_total (src : Bytes) : ∃ r, parseBytes src = .ok r := by
  unfold parseBytes
  apply parseToks_total
  exact lexAll_back_eof src.toArray _

end Plush
