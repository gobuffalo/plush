import PlushProofs.Lib.ParserTotal
import PlushProofs.Lib.ParserEqs
/-!
  C04, parser side ("WFAst"): a program that parses without a syntax error (only such programs are evaluated) has no
  missing child that the evaluator would dereference. `bad` marks those nodes: a `let` without a name (the only one the
  parser can build), a `for` without a block, an identifier without segments. The proof compares error counts: every
  path that builds a bad node also records an error, and no parse function drops one.
-/
namespace Plush

def Ident.bad (i : Ident) : Bool := i.base.isNone && i.segs.isEmpty

mutual
def Expr.bad : Expr → Bool
  | .html .. | .str .. | .int .. | .float .. | .bool .. | .brk .. | .cont .. => false
  | .ident i => i.bad
  | .pre _ _ r => OExpr.bad r
  | .inf _ _ l r => OExpr.bad l || OExpr.bad r
  | .asg _ name v => name.bad || OExpr.bad v
  | .arr _ es => OExprs.bad es
  | .hash _ pairs => Pairs.bad pairs
  | .idx _ l i v c => OExpr.bad l || OExpr.bad i || OExpr.bad v || OExpr.bad c
  | .call _ callee chain fn args block => OExpr.bad callee || OExpr.bad chain || Expr.bad fn || OExprs.bad args || OBlock.bad block
  | .fn _ _ block => Block.bad block
  | .if_ _ c bl elifs els => OExpr.bad c || Block.bad bl || Elifs.bad elifs || OBlock.bad els
  | .for_ _ _ _ it bl => OExpr.bad it || (match bl with | none => true | some b => Block.bad b)
def OExpr.bad : Option Expr → Bool
  | none => false
  | some e => Expr.bad e
def Exprs.bad : List (Option Expr) → Bool
  | [] => false
  | e :: r => OExpr.bad e || Exprs.bad r
def OExprs.bad : Option (List (Option Expr)) → Bool
  | none => false
  | some l => Exprs.bad l
def Pairs.bad : List (Option Expr × Option Expr) → Bool
  | [] => false
  | (k, v) :: r => OExpr.bad k || OExpr.bad v || Pairs.bad r
def Elifs.bad : List (Token × Option Expr × Block) → Bool
  | [] => false
  | (_, c, b) :: r => OExpr.bad c || Block.bad b || Elifs.bad r
def Stmt.bad : Stmt → Bool
  | .ret _ _ v => OExpr.bad v
  | .let_ _ name v => (match name with | none => true | some n => n.bad) || OExpr.bad v
  | .es _ e => OExpr.bad e
def Stmts.bad : List Stmt → Bool
  | [] => false
  | s :: r => Stmt.bad s || Stmts.bad r
def Block.bad : Block → Bool
  | .mk _ ss => Stmts.bad ss
def OBlock.bad : Option Block → Bool
  | none => false
  | some b => Block.bad b
end

theorem Exprs.bad_append (a : List (Option Expr)) (e : Option Expr) : Exprs.bad (a ++ [e]) = (Exprs.bad a || OExpr.bad e) := by
  induction a with
  | nil => simp [Exprs.bad]
  | cons x r ih => simp [Exprs.bad, ih, Bool.or_assoc]

theorem Stmts.bad_append (a : List Stmt) (st : Stmt) : Stmts.bad (a ++ [st]) = (Stmts.bad a || Stmt.bad st) := by
  induction a with
  | nil => simp [Stmts.bad]
  | cons x r ih => simp [Stmts.bad, ih, Bool.or_assoc]

theorem Elifs.bad_append (a : List (Token × Option Expr × Block)) (t : Token) (c : Option Expr) (b : Block) :
    Elifs.bad (a ++ [(t, c, b)]) = (Elifs.bad a || OExpr.bad c || Block.bad b) := by
  induction a with
  | nil => simp [Elifs.bad]
  | cons x r ih => obtain ⟨t', c', b'⟩ := x; simp [Elifs.bad, ih, Bool.or_assoc]

theorem Pairs.bad_append (a : List (Option Expr × Option Expr)) (k v : Option Expr) :
    Pairs.bad (a ++ [(k, v)]) = (Pairs.bad a || OExpr.bad k || OExpr.bad v) := by
  induction a with
  | nil => simp [Pairs.bad]
  | cons x r ih => obtain ⟨k', v'⟩ := x; simp [Pairs.bad, ih, Bool.or_assoc]

/-- the update `hashLoop` makes when a nil key comes in: every earlier nil key takes the new value -/
theorem Pairs.bad_map (a : List (Option Expr × Option Expr)) (v : Option Expr) (ha : Pairs.bad a = false) (hv : OExpr.bad v = false) :
    Pairs.bad (a.map (fun kv => if kv.1.isNone = true then (kv.1, v) else kv)) = false := by
  induction a with
  | nil => simp [Pairs.bad]
  | cons x r ih =>
    obtain ⟨k', v'⟩ := x
    simp only [Pairs.bad, Bool.or_eq_false_iff] at ha
    simp only [List.map_cons]
    split <;> simp only [Pairs.bad, ha.1.1, ha.1.2, hv, ih ha.2, Bool.or_false]

namespace P

def Mono (s s' : PS) : Prop := s.errs.size ≤ s'.errs.size

/-- no error was dropped, and if none was added the result (whose badness is `b`) has no bad node -/
def Good (s s' : PS) (b : Bool) : Prop := s.errs.size ≤ s'.errs.size ∧ (s'.errs.size = s.errs.size → b = false)

/-- the same for functions that carry an accumulator / left operand whose badness is `pre`: a clean `pre` gives a
    clean `b` -/
def GoodP (s s' : PS) (pre b : Bool) : Prop := s.errs.size ≤ s'.errs.size ∧ (s'.errs.size = s.errs.size → pre = false → b = false)

def OStmt.bad : Option Stmt → Bool | none => false | some st => st.bad

structure AllPC (n : Nat) : Prop where
  stmt : ∀ s, PC (parseStatement n) s (fun r s' => Good s s' (OStmt.bad r))
  ret : ∀ s o, PC (parseReturnStatement n o) s (fun r s' => Good s s' r.bad)
  let_ : ∀ s, PC (parseLetStatement n) s (fun r s' => Good s s' r.bad)
  exprStmt : ∀ s, PC (parseExpressionStatement n) s (fun r s' => Good s s' r.bad)
  expr : ∀ s p, PC (parseExpression n p) s (fun r s' => Good s s' (OExpr.bad r))
  infixLoop : ∀ s p l, PC (infixLoop n p l) s (fun r s' => GoodP s s' (OExpr.bad l) (OExpr.bad r))
  runPrefix : ∀ s f, PC (runPrefix n f) s (fun r s' => Good s s' (OExpr.bad r))
  comment : ∀ s, PC (commentLoop n) s (fun r s' => Good s s' (OExpr.bad r))
  runInfix : ∀ s f l, PC (runInfix n f l) s (fun r s' => GoodP s s' (OExpr.bad l) (OExpr.bad r))
  exprList : ∀ s t, PC (parseExpressionList n t) s (fun r s' => Good s s' (OExprs.bad r))
  exprListLoop : ∀ s a, PC (exprListLoop n a) s (fun r s' => GoodP s s' (Exprs.bad a) (Exprs.bad r))
  hash : ∀ s t a, PC (hashLoop n t a) s (fun r s' => GoodP s s' (Pairs.bad a) (OExpr.bad r))
  params : ∀ s, PC (parseFunctionParameters n) s (fun _ s' => Good s s' false)
  paramLoop : ∀ s a, PC (paramLoop n a) s (fun _ s' => Good s s' false)
  block : ∀ s, PC (parseBlockStatement n) s (fun r s' => Good s s' (Block.bad r))
  blockLoop : ∀ s a, PC (blockLoop n a) s (fun r s' => GoodP s s' (Stmts.bad a) (Stmts.bad r))
  if_ : ∀ s, PC (parseIfExpression n) s (fun r s' => Good s s' (OExpr.bad r))
  elseLoop : ∀ s t c b e l,
    PC (elseLoop n t c b e l) s (fun r s' => GoodP s s' (OExpr.bad c || Block.bad b || Elifs.bad e || OBlock.bad l) (OExpr.bad r))
  for_ : ∀ s, PC (parseForExpression n) s (fun r s' => Good s s' (OExpr.bad r))
  forNames : ∀ s ln a, PC (forNamesLoop n ln a) s (fun _ s' => Good s s' false)

/-! A step that records an error owes nothing (`GoodP.err`). Neither `Good` nor `GoodP` mentions the cursor, so a step
  from `s` is the same step from `{ s with pos := … }`. -/

theorem GoodP.refl (s : PS) (p : Bool) : GoodP s s p p := ⟨Nat.le_refl _, fun _ h => h⟩
theorem GoodP.trans {a b c : PS} {p q r : Bool} (g1 : GoodP a b p q) (g2 : GoodP b c q r) : GoodP a c p r :=
  ⟨Nat.le_trans g1.1 g2.1, fun h hp =>
    have h1 : b.errs.size = a.errs.size := Nat.le_antisymm (h ▸ g2.1) g1.1
    g2.2 (h.trans h1.symm) (g1.2 h1 hp)⟩
theorem GoodP.post {s s' : PS} {p q r : Bool} (g : GoodP s s' p q) (h : p = false → q = false → r = false) : GoodP s s' p r :=
  ⟨g.1, fun e hp => h hp (g.2 e hp)⟩
theorem GoodP.err {s s' : PS} (h : s.errs.size < s'.errs.size) (p b : Bool) : GoodP s s' p b :=
  ⟨Nat.le_of_lt h, fun e => absurd e (Nat.ne_of_gt h)⟩
theorem GoodP.push (s : PS) (e : PErr) (p b : Bool) : GoodP s { s with errs := s.errs.push e } p b :=
  .err (by simp) p b
theorem GoodP.of_le {s s' : PS} (h : s.errs.size ≤ s'.errs.size) (p : Bool) : GoodP s s' p p := ⟨h, fun _ hp => hp⟩

theorem Good.toP {s s' : PS} {b : Bool} (g : Good s s' b) (pre : Bool) : GoodP s s' pre b := ⟨g.1, fun h _ => g.2 h⟩
theorem GoodP.good {s s' : PS} {b : Bool} (g : GoodP s s' false b) : Good s s' b := ⟨g.1, fun h => g.2 h rfl⟩
theorem Good.refl (s : PS) : Good s s false := (GoodP.refl s false).good
theorem Good.push (s : PS) (e : PErr) (b : Bool) : Good s { s with errs := s.errs.push e } b := (GoodP.push s e false b).good
theorem Good.also {s s' : PS} {r : Bool} (g : Good s s' r) (q : Bool) : GoodP s s' q (q || r) :=
  (g.toP q).post fun hq hr => by rw [hq, hr]; rfl
theorem Good.post {s s' : PS} {q r : Bool} (g : Good s s' q) (h : q = false → r = false) : Good s s' r :=
  ((g.toP false).post fun _ => h).good
theorem Good.trans {a b c : PS} {q r : Bool} (g1 : Good a b q) (g2 : GoodP b c q r) : Good a c r := ((g1.toP false).trans g2).good

theorem wf_comment (n : Nat) (ih : AllPC n) : ∀ s, PC (commentLoop (n+1)) s (fun r s' => Good s s' (OExpr.bad r)) := by
  intro s
  rw [commentLoop_eq]
  wp_simp
  exact ite_intro (fun _ => ih.comment _) (fun _ => Good.refl s)

theorem wf_paramLoop (n : Nat) (ih : AllPC n) : ∀ s a, PC (paramLoop (n+1) a) s (fun _ s' => Good s s' false) := by
  intro s a
  rw [paramLoop_eq]
  wp_simp
  exact ite_intro (fun _ => ih.paramLoop _ _) (fun _ => Good.refl s)

theorem wf_forNames (n : Nat) (ih : AllPC n) : ∀ s ln a, PC (forNamesLoop (n+1) ln a) s (fun _ s' => Good s s' false) := by
  intro s ln a
  rw [forNamesLoop_eq]
  wp_simp
  exact ite_intro (fun _ => ite_intro (fun _ => Good.push s _ _) (fun _ => ih.forNames _ _ _)) (fun _ => Good.refl s)

theorem wf_params (n : Nat) (ih : AllPC n) : ∀ s, PC (parseFunctionParameters (n+1)) s (fun _ s' => Good s s' false) := by
  intro s
  rw [parseFunctionParameters_eq]
  wp_simp
  refine ite_intro (fun _ => Good.refl s) (fun _ => PC_conseq (ih.paramLoop _ _) fun a s2 g => ?_)
  exact ite_intro (fun _ => g) (fun _ => g.trans (.push s2 _ _ _))

theorem wf_stmt (n : Nat) (ih : AllPC n) : ∀ s, PC (parseStatement (n+1)) s (fun r s' => Good s s' (OStmt.bad r)) := by
  intro s
  rw [parseStatement_eq]
  wp_simp
  split <;> wp_simp
  · exact ih.let_ _
  · exact ih.stmt _
  · exact ih.ret _ _
  · exact ih.ret _ _
  · exact Good.refl s
  · exact Good.refl s
  · exact ih.exprStmt _

theorem wf_ret (n : Nat) (ih : AllPC n) : ∀ s o, PC (parseReturnStatement (n+1) o) s (fun r s' => Good s s' r.bad) := by
  intro s o
  rw [parseReturnStatement_eq]
  wp_simp
  exact PC_conseq (ih.expr _ _) fun a s2 g => ite_intro (fun _ => g) (fun _ => g)

theorem wf_exprStmt (n : Nat) (ih : AllPC n) : ∀ s, PC (parseExpressionStatement (n+1)) s (fun r s' => Good s s' r.bad) := by
  intro s
  rw [parseExpressionStatement_eq]
  wp_simp
  exact PC_conseq (ih.expr _ _) fun a s2 g => ite_intro (fun _ => g) (fun _ => g)

theorem ident_of_split_not_bad (t : Token) (l : List Bytes) (h : l ≠ []) : Ident.bad { tok := t, segs := l } = false := by
  simp [Ident.bad, h]

theorem wf_let (n : Nat) (ih : AllPC n) : ∀ s, PC (parseLetStatement (n+1)) s (fun r s' => Good s s' r.bad) := by
  intro s
  rw [parseLetStatement_eq]
  wp_simp
  refine ite_intro (fun _ => ite_intro (fun _ => ?_) (fun _ => Good.push s _ _)) (fun _ => Good.push s _ _)
  refine PC_conseq (ih.expr _ _) fun a s2 g => ?_
  -- the name is there, with its one segment: the statement is as bad as its value
  have g' := g.post fun h => show Stmt.bad (.let_ (tokAt s s.pos) (some { tok := tokAt s (s.pos + 1), segs := [(tokAt s (s.pos + 1)).lit] }) a) = false by
    simpa [Stmt.bad, Ident.bad] using h
  exact ite_intro (fun _ => g') (fun _ => g')

theorem wf_expr (n : Nat) (ih : AllPC n) : ∀ s p, PC (parseExpression (n+1) p) s (fun r s' => Good s s' (OExpr.bad r)) := by
  intro s p
  rw [parseExpression_eq]
  wp_simp
  refine ite_intro (fun _ => Good.refl s) (fun _ => ?_)
  split <;> wp_simp
  · exact Good.push s _ _
  · exact PC_conseq (ih.runPrefix _ _) fun a s2 g => PC_conseq (ih.infixLoop _ _ _) fun r s3 g3 => g.trans g3

theorem wf_infixLoop (n : Nat) (ih : AllPC n) : ∀ s p l, PC (infixLoop (n+1) p l) s (fun r s' => GoodP s s' (OExpr.bad l) (OExpr.bad r)) := by
  intro s p l
  rw [infixLoop_eq]
  wp_simp
  refine ite_intro (fun _ => ?_) (fun _ => GoodP.refl s _)
  split <;> wp_simp
  · exact GoodP.refl s _
  · exact PC_conseq (ih.runInfix _ _ _) fun a s2 g => PC_conseq (ih.infixLoop _ _ _) fun r s3 g3 => g.trans g3

theorem wf_exprListLoop (n : Nat) (ih : AllPC n) : ∀ s a, PC (exprListLoop (n+1) a) s (fun r s' => GoodP s s' (Exprs.bad a) (Exprs.bad r)) := by
  intro s a
  rw [exprListLoop_eq]
  wp_simp
  refine ite_intro (fun _ => ?_) (fun _ => GoodP.refl s _)
  exact PC_conseq (ih.expr _ _) fun e s2 g => PC_conseq (ih.exprListLoop _ _) fun r s3 g3 =>
    GoodP.trans ((g.also _).post fun _ h => by rw [Exprs.bad_append]; exact h) g3

theorem wf_exprList (n : Nat) (ih : AllPC n) : ∀ s t, PC (parseExpressionList (n+1) t) s (fun r s' => Good s s' (OExprs.bad r)) := by
  intro s t
  rw [parseExpressionList_eq]
  wp_simp
  refine ite_intro (fun _ => Good.refl s) (fun _ => ?_)
  refine PC_conseq (ih.expr _ _) fun e s2 g => PC_conseq (ih.exprListLoop _ _) fun r s3 g3 => ?_
  have g' : Good s s3 (Exprs.bad r) := (g.post fun h => by simpa [Exprs.bad] using h).trans g3
  exact ite_intro (fun _ => g') (fun _ => g'.trans (.push s3 _ _ _))

theorem wf_block (n : Nat) (ih : AllPC n) : ∀ s, PC (parseBlockStatement (n+1)) s (fun r s' => Good s s' (Block.bad r)) := by
  intro s
  rw [parseBlockStatement_eq]
  wp_simp
  exact PC_conseq (ih.blockLoop _ _) fun r s2 g => g.good

theorem wf_blockLoop (n : Nat) (ih : AllPC n) : ∀ s a, PC (blockLoop (n+1) a) s (fun r s' => GoodP s s' (Stmts.bad a) (Stmts.bad r)) := by
  intro s a
  rw [blockLoop_eq]
  wp_simp
  refine ite_intro (fun _ => ite_intro (fun _ => ih.blockLoop _ _) fun _ => ?_) (fun _ => GoodP.refl s _)
  refine PC_conseq (ih.stmt _) fun st s2 g => PC_conseq (ih.blockLoop _ _) fun r s3 g3 => GoodP.trans ?_ g3
  refine (g.also (Stmts.bad a)).post fun ha h => ?_
  cases st with
  | none => exact ha
  | some x => rw [Stmts.bad_append]; exact h

/-- `assignCallee` gives an identifier a `base`, and an identifier with a base is not bad (`rfl` below) -/
theorem wf_assignCallee (pe : Option Expr) (v : Bytes) (s : PS) :
    PC (assignCallee pe v) s (fun r s' => GoodP s s' (OExpr.bad pe) (OExpr.bad r)) := by
  unfold assignCallee
  split <;> wp_simp
  case h_1 =>
    refine (GoodP.refl s _).post fun h _ => ?_
    simp only [OExpr.bad, Expr.bad, Bool.or_eq_false_iff] at h ⊢
    exact ⟨⟨⟨rfl, h.1.1.2⟩, h.1.2⟩, h.2⟩
  case h_2 => exact .push ..
  case h_3 f _ _ =>
    refine (GoodP.refl s _).post fun h _ => ?_
    simp only [OExpr.bad, Expr.bad, Bool.or_eq_false_iff] at h ⊢
    exact ⟨⟨⟨⟨rfl, h.1.1.1.2⟩, by split <;> first | rfl | exact h.1.1.2⟩, h.1.2⟩, h.2⟩
  case h_4 =>
    refine (GoodP.refl s _).post fun h _ => ?_
    simp only [OExpr.bad, Expr.bad, Bool.or_eq_false_iff] at h ⊢
    exact ⟨⟨⟨⟨rfl, h.1.1.1.2⟩, h.1.1.2⟩, h.1.2⟩, h.2⟩
  case h_5 => exact (GoodP.refl s _).post fun _ _ => rfl
  case h_6 => exact .push ..

theorem wf_runPrefix (n : Nat) (ih : AllPC n) : ∀ s f, PC (runPrefix (n+1) f) s (fun r s' => Good s s' (OExpr.bad r)) := by
  intro s f
  rw [runPrefix_eq]
  wp_simp
  cases f <;> wp_simp
  case parseIdentifier =>
    -- the name read off the token has at least one segment
    have id : Ident.bad { tok := tokAt s s.pos, segs := splitOn1 46 (tokAt s s.pos).lit } = false :=
      ident_of_split_not_bad _ _ (splitOn1_ne_nil _ _)
    refine ite_intro (fun h => ite_intro (fun _ => ?_) (absurd h)) (fun _ => (Good.refl s).post fun _ => id)
    refine PC_conseq (ih.expr _ _) fun a s2 g => ?_
    have g' := g.post fun h => show (Ident.bad _ || OExpr.bad a) = false by rw [id, h]; rfl
    exact ite_intro (fun _ => g') (fun _ => g')
  case parseForLoopControlFlow =>
    exact ite_intro (fun _ => Good.push s _ _) fun _ => ite_intro (fun _ => Good.refl s) fun _ => Good.refl s
  case parseIntegerLiteral =>
    split <;> wp_simp
    · exact Good.refl s
    · exact Good.push s _ _
  case parseFloatLiteral => exact ite_intro (fun _ => Good.refl s) (fun _ => Good.push s _ _)
  case parseStringLiteral | parseBoolean | parseHTMLLiteral | returnNil => exact Good.refl s
  case parsePrefixExpression => exact ih.expr _ _
  case parseGroupedExpression =>
    exact PC_conseq (ih.expr _ _) fun a s2 g => ite_intro (fun _ => g) (fun _ => g.trans (.push s2 _ _ _))
  case parseIfExpression => exact ih.if_ _
  case parseForExpression => exact ih.for_ _
  case parseFunctionLiteral =>
    refine ite_intro (fun _ => ?_) (fun _ => Good.push s _ _)
    refine PC_conseq (ih.params _) fun ps s2 g => ?_
    refine ite_intro (fun _ => ?_) (fun _ => g.trans (.push s2 _ _ _))
    exact PC_conseq (ih.block _) fun bl s3 g3 => g.trans (g3.toP _)
  case parseArrayLiteral => exact ih.exprList _ _
  case parseHashLiteral => exact PC_conseq (ih.hash _ _ _) fun r s2 g => g.good
  case parseCommentLiteral => exact ih.comment _

theorem wf_runInfix (n : Nat) (ih : AllPC n) : ∀ s f l, PC (runInfix (n+1) f l) s (fun r s' => GoodP s s' (OExpr.bad l) (OExpr.bad r)) := by
  intro s f l
  rw [runInfix_eq]
  wp_simp
  cases f <;> wp_simp
  case parseInfixExpression => exact PC_conseq (ih.expr _ _) fun a s2 g => g.also _
  case parseCallExpression =>
    cases l <;> wp_simp
    · exact GoodP.push s _ _ _
    rename_i fn
    -- callee and function are the parsed function itself, or identifiers spelled from its printed name, which has segments
    generalize hcf : (if (splitOn1 46 (pExpr fn)).length > 1 then _ else _ : Option Expr × Expr) = cf
    have hc : Expr.bad fn = false → OExpr.bad cf.1 = false ∧ Expr.bad cf.2 = false := by
      intro h; rw [← hcf]; split
      · have h1 : (splitOn1 46 (pExpr fn)).dropLast ≠ [] := fun h0 => by
          have := congrArg List.length h0; simp at this; omega
        exact ⟨ident_of_split_not_bad _ _ h1, ident_of_split_not_bad _ _ (splitOn1_ne_nil _ _)⟩
      · exact ⟨rfl, h⟩
    clear hcf
    refine PC_conseq (ih.exprList _ _) fun args s2 g => ?_
    have call : ∀ chain blk, Expr.bad fn = false → (OExprs.bad args || OBlock.bad blk || OExpr.bad chain) = false →
        OExpr.bad (some (.call (tokAt s s.pos) cf.1 chain cf.2 args blk)) = false := fun chain blk hp h => by
      simp only [Bool.or_eq_false_iff] at h
      show (OExpr.bad cf.1 || OExpr.bad chain || Expr.bad cf.2 || OExprs.bad args || OBlock.bad blk) = false
      rw [(hc hp).1, (hc hp).2, h.1.1, h.1.2, h.2]; rfl
    -- `.name…` after the call, with or without a block `blk` in between
    have tail : ∀ s3 blk, GoodP s s3 (Expr.bad fn) (OExprs.bad args || OBlock.bad blk) →
        if ((tokAt s3 (s3.pos + 1)).type == TT.DOT) = true then
          PC (parseExpression n Gen.LOWEST) { s3 with pos := s3.pos + 1 + 1 } fun pe s4 =>
            PC (assignCallee pe (pExpr cf.2)) s4 fun r s5 => PC (match r with
              | none => pure none
              | some ch => pure (some (Expr.call (tokAt s s.pos) cf.1 (some ch) cf.2 args blk))) s5
                fun r s' => GoodP s s' (OExpr.bad (some fn)) (OExpr.bad r)
        else GoodP s s3 (OExpr.bad (some fn)) (OExpr.bad (some (Expr.call (tokAt s s.pos) cf.1 none cf.2 args blk))) := by
      intro s3 blk G
      refine ite_intro (fun _ => ?_) (fun _ => G.post fun hp h => call none blk hp (by rw [h]; rfl))
      refine PC_conseq (ih.expr _ _) fun pe s4 g4 => PC_conseq (wf_assignCallee _ _ _) fun r s5 g5 => ?_
      have G5 := G.trans ((g4.trans g5).also _)
      cases r <;> wp_simp
      · exact G5.post fun _ _ => rfl
      · exact G5.post (call _ blk)
    refine ite_intro (fun _ => PC_conseq (ih.block _) fun blk s3 g3 => ?_) (fun _ => ?_)
    · exact tail s3 (some blk) ((g.toP _).trans (g3.also _))
    · exact tail s2 none ((g.toP _).post fun _ h => by rw [h]; rfl)
  case parseIndexExpression =>
    cases l <;> wp_simp
    · exact GoodP.push s _ _ _
    rename_i lft
    refine PC_conseq (ih.expr _ _) fun ix s2 g => ?_
    refine ite_intro (fun _ => ?_) (fun _ => (g.toP _).trans (.push s2 _ _ _))
    have idx : ∀ v callee, Expr.bad lft = false → (OExpr.bad ix || OExpr.bad callee || OExpr.bad v) = false →
        OExpr.bad (some (.idx (tokAt s s.pos) (some lft) ix v callee)) = false := fun v callee hp h => by
      simp only [Bool.or_eq_false_iff] at h
      show (OExpr.bad (some lft) || OExpr.bad ix || OExpr.bad v || OExpr.bad callee) = false
      rw [show OExpr.bad (some lft) = false from hp, h.1.1, h.1.2, h.2]; rfl
    -- `= value` after the index, with or without a `.name` (`callee`) in between
    have value : ∀ s3 callee, GoodP s s3 (Expr.bad lft) (OExpr.bad ix || OExpr.bad callee) →
        if ((tokAt s3 (s3.pos + 1)).type == TT.ASSIGN) = true then
          PC (parseExpression n Gen.LOWEST) { s3 with pos := s3.pos + 1 + 1 } fun v s' =>
            GoodP s s' (OExpr.bad (some lft)) (OExpr.bad (some (Expr.idx (tokAt s s.pos) (some lft) ix v callee)))
        else GoodP s s3 (OExpr.bad (some lft)) (OExpr.bad (some (Expr.idx (tokAt s s.pos) (some lft) ix none callee))) :=
      fun s3 callee G => ite_intro
        (fun _ => PC_conseq (ih.expr _ _) fun v s4 g4 => (G.trans (g4.also _)).post (idx v callee))
        (fun _ => G.post fun hp h => idx none callee hp (by rw [h]; rfl))
    refine ite_intro (fun _ => ?_) (fun _ => value { s2 with pos := s2.pos + 1 } none ((g.toP _).post fun _ h => by rw [h]; rfl))
    refine PC_conseq (ih.expr _ _) fun pe s4 g4 => PC_conseq (wf_assignCallee _ _ _) fun r s5 g5 => ?_
    have G5 : GoodP s s5 (Expr.bad lft) (OExpr.bad ix || OExpr.bad r) := (g.toP _).trans ((g4.trans g5).also _)
    cases r <;> wp_simp
    · exact G5.post fun _ _ => rfl
    · exact value s5 _ G5

theorem wf_hash (n : Nat) (ih : AllPC n) : ∀ s t a, PC (hashLoop (n+1) t a) s (fun r s' => GoodP s s' (Pairs.bad a) (OExpr.bad r)) := by
  intro s t a
  rw [hashLoop_eq]
  wp_simp
  refine ite_intro (fun _ => ?_) (fun _ => ite_intro (fun _ => GoodP.refl s _) (fun _ => GoodP.push s _ _ _))
  refine PC_conseq (ih.expr _ _) fun k s2 gk => ?_
  refine ite_intro (fun _ => ?_) (fun _ => (gk.toP _).trans (.push s2 _ _ _))
  refine PC_conseq (ih.expr _ _) fun v s3 gv => ?_
  -- the pair just read joins the accumulator (a nil key overwrites the values of the nil keys before it)
  have acc : GoodP s s3 (Pairs.bad a)
      (Pairs.bad ((if k.isNone = true then a.map (fun kv => if kv.1.isNone = true then (kv.1, v) else kv) else a) ++ [(k, v)])) :=
    ((gk.also _).trans (gv.also _)).post fun ha h => by
      simp only [ha, Bool.false_or, Bool.or_eq_false_iff] at h
      rw [Pairs.bad_append, h.1, h.2]
      split
      · rw [Pairs.bad_map a v ha h.2]; rfl
      · rw [ha]; rfl
  refine ite_intro (fun _ => ite_intro (fun _ => ?_) (fun _ => acc.trans (.push s3 _ _ _))) (fun _ => ?_)
  · exact PC_conseq (ih.hash _ _ _) fun r s4 g4 => acc.trans g4
  · exact PC_conseq (ih.hash _ _ _) fun r s4 g4 => acc.trans g4

theorem wf_if (n : Nat) (ih : AllPC n) : ∀ s, PC (parseIfExpression (n+1)) s (fun r s' => Good s s' (OExpr.bad r)) := by
  intro s
  rw [parseIfExpression_eq]
  wp_simp
  refine ite_intro (fun _ => ?_) (fun _ => Good.push s _ _)
  refine PC_conseq (ih.expr _ _) fun c s2 g => ?_
  have G : Good s { s2 with errs := (confirmIfCondition (tokAt s2 s2.pos).line c s2.errs).2 } (OExpr.bad c) :=
    g.trans (.of_le (confirm_appends ..).size _)
  refine ite_intro (fun no => g.trans (.err (confirm_false_adds _ _ _ (by simpa using no)) _ _)) (fun _ => ?_)
  refine ite_intro (fun _ => ite_intro (fun _ => ?_) fun _ => G.trans (.push _ _ _ _)) (fun _ => G.trans (.push _ _ _ _))
  refine PC_conseq (ih.block _) fun b s3 g3 => PC_conseq (ih.elseLoop _ _ _ _ _ _) fun r s4 g4 => ?_
  exact ((G.trans (g3.also _)).post fun h => show (_ || Elifs.bad [] || OBlock.bad none) = false by rw [h]; rfl).trans g4

theorem wf_elseLoop (n : Nat) (ih : AllPC n) : ∀ s t c b e l,
    PC (elseLoop (n+1) t c b e l) s (fun r s' => GoodP s s' (OExpr.bad c || Block.bad b || Elifs.bad e || OBlock.bad l) (OExpr.bad r)) := by
  intro s t c b e l
  rw [elseLoop_eq]
  wp_simp
  refine ite_intro (fun _ => ?_) (fun _ => GoodP.refl s _)
  refine ite_intro (fun _ => ite_intro (fun _ => ?_) fun _ => .push s _ _ _) (fun _ => ite_intro (fun _ => ?_) fun _ => .push s _ _ _)
  · -- `else if (ec) { eb }` joins the list of branches
    refine PC_conseq (ih.expr _ _) fun ec s2 g => ?_
    refine ite_intro (fun _ => ite_intro (fun _ => ?_) fun _ => (g.toP _).trans (.push s2 _ _ _)) (fun _ => (g.toP _).trans (.push s2 _ _ _))
    refine PC_conseq (ih.block _) fun eb s3 g3 => PC_conseq (ih.elseLoop _ _ _ _ _ _) fun r s4 g4 => ?_
    refine GoodP.trans (((g.also _).trans (g3.also _)).post fun hp h => ?_) g4
    simp only [Bool.or_eq_false_iff] at hp h ⊢
    exact ⟨⟨hp.1.1, by rw [Elifs.bad_append, hp.1.2, h.1.2, h.2]; rfl⟩, hp.2⟩
  · -- `else { eb }`
    refine PC_conseq (ih.block _) fun eb s3 g3 => PC_conseq (ih.elseLoop _ _ _ _ _ _) fun r s4 g4 => ?_
    refine GoodP.trans ((g3.also _).post fun hp h => ?_) g4
    simp only [Bool.or_eq_false_iff] at hp h ⊢
    exact ⟨hp.1, h.2⟩

theorem wf_for (n : Nat) (ih : AllPC n) : ∀ s, PC (parseForExpression (n+1)) s (fun r s' => Good s s' (OExpr.bad r)) := by
  intro s
  rw [parseForExpression_eq]
  wp_simp
  refine ite_intro (fun _ => ?_) (fun _ => Good.push s _ _)
  refine PC_conseq (ih.forNames _ _ _) fun nm s2 g => ?_
  cases nm <;> wp_simp
  · exact g
  refine ite_intro (fun _ => g) (fun _ => ?_)
  refine PC_conseq (ih.expr _ _) fun it s3 g3 => ?_
  have G := g.trans (g3.toP _)
  split <;> wp_simp
  · -- `for … in f(args) { blk }`: the block of the call is taken as the loop body
    refine G.post fun h => ?_
    simp only [OExpr.bad, Expr.bad, OBlock.bad, Bool.or_eq_false_iff] at h ⊢
    exact ⟨⟨h.1, trivial⟩, h.2⟩
  · refine ite_intro (fun _ => ?_) (fun _ => G.trans (.push s3 _ _ _))
    exact PC_conseq (ih.block _) fun bl s4 g4 => G.trans (g4.also _)

theorem allPC : ∀ n, AllPC n := by
  intro n
  induction n with
  | zero =>
    constructor <;> intros <;> exact (PC_throw PFail.outOfFuel _ _).mpr trivial
  | succ n ih =>
    exact ⟨wf_stmt n ih, wf_ret n ih, wf_let n ih, wf_exprStmt n ih, wf_expr n ih, wf_infixLoop n ih, wf_runPrefix n ih,
      wf_comment n ih, wf_runInfix n ih, wf_exprList n ih, wf_exprListLoop n ih, wf_hash n ih, wf_params n ih,
      wf_paramLoop n ih, wf_block n ih, wf_blockLoop n ih, wf_if n ih, wf_elseLoop n ih, wf_for n ih, wf_forNames n ih⟩

theorem wf_programLoop (fuel : Nat) : ∀ (n : Nat) (s : PS) (acc : List Stmt),
    PC (programLoop n fuel acc) s (fun r s' => GoodP s s' (Stmts.bad acc) (Stmts.bad r)) := by
  intro n
  induction n with
  | zero => intro s acc; unfold programLoop; exact (PC_throw _ _ _).mpr trivial
  | succ n ih =>
    intro s acc
    unfold programLoop
    wp_simp
    refine ite_intro (fun _ => ?_) (fun _ => GoodP.refl s _)
    refine PC_conseq ((allPC fuel).stmt _) fun st s2 g => PC_conseq (ih _ _) fun r s3 g3 => GoodP.trans ?_ g3
    -- a statement is appended as it is, or dropped
    refine (g.also (Stmts.bad acc)).post fun ha h => ?_
    rw [ha] at h
    split
    · rw [Stmts.bad_append, ha]; exact h
    · split
      · rw [Stmts.bad_append, ha]; exact h
      · exact ha
    · exact ha

end P

/-- THE PARSER NEVER HANDS THE EVALUATOR A MISSING CHILD: if `parser.Parse` reports no syntax error, the program
    contains no `let` without a name, no `for` without a block and no identifier without segments — the nil
    children `evalLetStatement` / `evalForExpression` / `evalIdentifier` would dereference (the three crash sites of
    the evaluator model). -/
theorem parseToks_no_bad_node (toks : Array Token) (prog : Program) (errs : Array PErr)
    (h : parseToks toks = .ok (prog, errs)) (he : errs.size = 0) : Stmts.bad prog.stmts = false :=
  have ⟨_, g, e⟩ := P.parseToks_PC (P.wf_programLoop _ _ _ _) h
  g.2 (by rw [e, he]; rfl) rfl

theorem parseBytes_no_bad_node (src : Bytes) (prog : Program) (errs : Array PErr)
    (h : parseBytes src = .ok (prog, errs)) (he : errs.size = 0) : Stmts.bad prog.stmts = false :=
  parseToks_no_bad_node _ prog errs h he

end Plush
