import PlushProofs.Lib.ParserTotal
import PlushProofs.Lib.ParserEqs
/-!
  What every parse function does to the parser state, whatever it returns: it moves the state along any relation
  that is reflexive, transitive and respected by the few state updates the parser performs (`Closed`). The body of a
  parse function is put together by `>>=`, `if` and `match` from the primitives and from calls at smaller fuel, so
  this needs no look at the values computed. "Every error has a line", "the loop flag is restored" and the frame `Fr`
  are instances.
-/
namespace Plush
namespace P

structure Closed (R : PS → PS → Prop) : Prop where
  refl : ∀ s, R s s
  trans : ∀ {a b c}, R a b → R b c → R a c
  next : ∀ s, R s { s with pos := s.pos + 1 }
  err : ∀ s (ln : Nat) k, R s { s with errs := s.errs.push { line := some ln, kind := k } }
  confirm : ∀ s ln c, R s { s with errs := (confirmIfCondition ln c s.errs).2 }
  /-- the loop flag is only ever written in brackets: set on both sides, `R` is kept -/
  flag : ∀ {a c} b, R a c → R { a with inFor := b } { c with inFor := b }

def Pres (R : PS → PS → Prop) {α} (m : PM α) : Prop := ∀ s, PC m s (fun _ s' => R s s')

section
variable {R : PS → PS → Prop} (h : Closed R)
include h

theorem Pres.read {α} {m : PM α} (hm : ∀ s, ∃ a, m s = .ok (a, s)) : Pres R m := by
  intro s a s' e
  obtain ⟨a0, e0⟩ := hm s
  rw [e0] at e; cases e; exact h.refl s

theorem Pres.bind {α β} {m : PM α} {f : α → PM β} (hm : Pres R m) (hf : ∀ a, Pres R (f a)) : Pres R (m >>= f) :=
  fun s => (PC_bind ..).mpr (PC_conseq (hm s) fun a s1 r1 => PC_conseq (hf a s1) fun _ _ r2 => h.trans r1 r2)

omit h in
theorem Pres.ite {α} {c : Prop} [Decidable c] {m1 m2 : PM α} (h1 : Pres R m1) (h2 : Pres R m2) :
    Pres R (if c then m1 else m2) := by
  split <;> assumption

theorem Pres.nextTok : Pres R nextTok := fun s => (PC_nextTok ..).mpr (h.next s)
theorem Pres.errHere (k : String) : Pres R (errHere k) := fun s => (PC_errHere ..).mpr (h.err s _ _)
theorem Pres.addErr (ln : Nat) (k : String) : Pres R (addErr (some ln) k) := fun s => (PC_addErr ..).mpr (h.err s _ _)
theorem Pres.expectPeek (t : TT) : Pres R (expectPeek t) := by
  intro s; rw [PC_expectPeek]; split
  · exact h.next s
  · exact h.err s _ _
theorem Pres.skipSemicolon : Pres R skipSemicolon := by
  intro s; rw [PC_skipSemicolon]; split
  · exact h.next s
  · exact h.refl s
theorem Pres.assignCallee (pe : Option Expr) (v : Bytes) : Pres R (assignCallee pe v) := by
  intro s; unfold P.assignCallee
  split <;> wp_simp <;> first | exact h.refl s | exact h.err s _ _
end

structure All (R : PS → PS → Prop) (n : Nat) : Prop where
  stmt : Pres R (parseStatement n)
  ret : ∀ o, Pres R (parseReturnStatement n o)
  let_ : Pres R (parseLetStatement n)
  exprStmt : Pres R (parseExpressionStatement n)
  expr : ∀ p, Pres R (parseExpression n p)
  infixLoop : ∀ p l, Pres R (infixLoop n p l)
  runPrefix : ∀ f, Pres R (runPrefix n f)
  comment : Pres R (commentLoop n)
  runInfix : ∀ f l, Pres R (runInfix n f l)
  exprList : ∀ t, Pres R (parseExpressionList n t)
  exprListLoop : ∀ a, Pres R (exprListLoop n a)
  hash : ∀ t a, Pres R (hashLoop n t a)
  params : Pres R (parseFunctionParameters n)
  paramLoop : ∀ a, Pres R (paramLoop n a)
  block : Pres R (parseBlockStatement n)
  blockLoop : ∀ a, Pres R (blockLoop n a)
  if_ : Pres R (parseIfExpression n)
  elseLoop : ∀ t c b e l, Pres R (elseLoop n t c b e l)
  /-- `parseForExpression` switches the loop flag on, so the state it ends in is related to its start state with some
      flag `b`; its caller sets the flag back (`Closed.flag`) -/
  for_ : ∀ s, PC (parseForExpression n) s (fun _ s' => ∃ b, R { s with inFor := b } s')
  forNames : ∀ ln a, Pres R (forNamesLoop n ln a)

/-- one step through the body of a parse function: take `>>=` or `if` apart, name a bound value, or close a
    call at smaller fuel (`calls`: what is known of the functions this one calls), a primitive, a step that only
    reads the state; at a `match`, split. Everything but the last two is tried up to reducible unfolding only:
    `cur` would unfold to a `>>=`, a parse function to its recursor. -/
macro "rstep" h:ident "[" calls:term,* "]" : tactic => `(tactic| first
  | with_reducible first
    | intro _
    | apply Pres.bind $h
    | apply Pres.ite
    $[| exact $calls]*
    | exact Pres.nextTok $h | exact Pres.errHere $h _ | exact Pres.addErr $h _ _ | exact Pres.expectPeek $h _
    | exact Pres.skipSemicolon $h | exact Pres.assignCallee $h _ _
  | exact Pres.read $h (fun _ => ⟨_, rfl⟩)
  | split)

section
variable {R : PS → PS → Prop} (h : Closed R) {n : Nat} (ih : All R n)
include h ih

theorem walk_stmt : Pres R (parseStatement (n+1)) := by
  rw [parseStatement_eq]; repeat' rstep h [ih.let_, ih.stmt, ih.ret _, ih.exprStmt]
theorem walk_ret (o) : Pres R (parseReturnStatement (n+1) o) := by
  rw [parseReturnStatement_eq]; repeat' rstep h [ih.expr _]
theorem walk_let : Pres R (parseLetStatement (n+1)) := by
  rw [parseLetStatement_eq]; repeat' rstep h [ih.expr _]
theorem walk_exprStmt : Pres R (parseExpressionStatement (n+1)) := by
  rw [parseExpressionStatement_eq]; repeat' rstep h [ih.expr _]
theorem walk_expr (p) : Pres R (parseExpression (n+1) p) := by
  rw [parseExpression_eq]; repeat' rstep h [ih.runPrefix _, ih.infixLoop _ _]
theorem walk_infixLoop (p l) : Pres R (infixLoop (n+1) p l) := by
  rw [infixLoop_eq]; repeat' rstep h [ih.runInfix _ _, ih.infixLoop _ _]
theorem walk_comment : Pres R (commentLoop (n+1)) := by
  rw [commentLoop_eq]; repeat' rstep h [ih.comment]
theorem walk_runInfix (f l) : Pres R (runInfix (n+1) f l) := by
  rw [runInfix_eq]; repeat' rstep h [ih.expr _, ih.exprList _, ih.block]
theorem walk_exprList (t) : Pres R (parseExpressionList (n+1) t) := by
  rw [parseExpressionList_eq]; repeat' rstep h [ih.expr _, ih.exprListLoop _]
theorem walk_exprListLoop (a) : Pres R (exprListLoop (n+1) a) := by
  rw [exprListLoop_eq]; repeat' rstep h [ih.expr _, ih.exprListLoop _]
theorem walk_hash (t a) : Pres R (hashLoop (n+1) t a) := by
  rw [hashLoop_eq]; repeat' rstep h [ih.expr _, ih.hash _ _]
theorem walk_params : Pres R (parseFunctionParameters (n+1)) := by
  rw [parseFunctionParameters_eq]; repeat' rstep h [ih.paramLoop _]
theorem walk_paramLoop (a) : Pres R (paramLoop (n+1) a) := by
  rw [paramLoop_eq]; repeat' rstep h [ih.paramLoop _]
theorem walk_block : Pres R (parseBlockStatement (n+1)) := by
  rw [parseBlockStatement_eq]; repeat' rstep h [ih.blockLoop _]
theorem walk_blockLoop (a) : Pres R (blockLoop (n+1) a) := by
  rw [blockLoop_eq]; repeat' rstep h [ih.blockLoop _, ih.stmt]
theorem walk_elseLoop (t c b e l) : Pres R (elseLoop (n+1) t c b e l) := by
  rw [elseLoop_eq]; repeat' rstep h [ih.expr _, ih.block, ih.elseLoop _ _ _ _ _]
theorem walk_forNames (ln a) : Pres R (forNamesLoop (n+1) ln a) := by
  rw [forNamesLoop_eq]; repeat' rstep h [ih.forNames _ _]

/- By hand: the places where what is written to the state depends on what was read from it (the loop flag that the
   caller of `parseForExpression` and a function literal put back, the error list that `confirmIfCondition` rewrites),
   and `parseForExpression` itself, whose statement has a form of its own. -/

theorem walk_runPrefix (f) : Pres R (runPrefix (n+1) f) := by
  rw [runPrefix_eq]
  apply Pres.bind h (Pres.read h fun _ => ⟨_, rfl⟩); intro c
  cases f <;> dsimp only
  case parseForExpression =>
    -- the caller of `parseForExpression` puts its own flag back
    intro s; wp_simp
    exact PC_conseq (ih.for_ s) fun _ s2 ⟨b, r⟩ => (h.flag s.inFor r :)
  case parseFunctionLiteral =>
    -- a function literal parses its body with the flag off and puts the flag back on both ways out
    intro s; wp_simp
    split
    · refine PC_conseq (ih.params _) fun _ s2 r2 => ?_
      have r : R s s2 := h.trans (h.next s) r2
      split
      · exact PC_conseq (ih.block _) fun _ s3 r3 => h.trans r (h.trans (h.next s2) (h.flag s2.inFor r3 :))
      · exact h.trans r (h.err s2 _ _)
    · exact h.err s _ _
  all_goals repeat' rstep h [ih.expr _, ih.comment, ih.if_, ih.exprList _, ih.hash _ _]

theorem walk_if : Pres R (parseIfExpression (n+1)) := by
  rw [parseIfExpression_eq]
  intro s; wp_simp
  split
  · refine PC_conseq (ih.expr _ _) fun c s2 r2 => ?_
    have r : R s { s2 with errs := (confirmIfCondition (tokAt s2 s2.pos).line c s2.errs).2 } :=
      h.trans (h.next s) (h.trans (h.next _) (h.trans r2 (h.confirm ..)))
    split
    · exact r
    · split
      · split
        · exact PC_conseq (ih.block _) fun _ s3 r3 => PC_conseq (ih.elseLoop _ _ _ _ _ _) fun _ s4 r4 =>
            h.trans r (h.trans (h.next _) (h.trans (h.next _) (h.trans r3 r4)))
        · exact h.trans r (h.trans (h.next _) (h.err _ _ _))
      · exact h.trans r (h.err _ _ _)
  · exact h.err s _ _

theorem walk_for : ∀ s, PC (parseForExpression (n+1)) s (fun _ s' => ∃ b, R { s with inFor := b } s') := by
  rw [parseForExpression_eq]
  intro s; wp_simp
  split
  · refine PC_conseq (ih.forNames _ _ _) fun a s2 r2 => ?_
    have r : R { s with inFor := true } s2 := h.trans (h.next _) r2
    refine PC_conseq ((?_ : Pres R _) s2) fun _ s' r' => ⟨true, h.trans r r'⟩
    repeat' rstep h [ih.expr _, ih.block]
  · exact ⟨s.inFor, h.err s _ _⟩
end

theorem Closed.all {R : PS → PS → Prop} (h : Closed R) : ∀ n, All R n := by
  intro n
  induction n with
  | zero =>
    constructor <;> intros <;> first
      | exact (PC_throw PFail.outOfFuel _ _).mpr trivial
      | exact fun _ => (PC_throw PFail.outOfFuel _ _).mpr trivial
  | succ n ih =>
    exact ⟨walk_stmt h ih, walk_ret h ih, walk_let h ih, walk_exprStmt h ih, walk_expr h ih, walk_infixLoop h ih,
      walk_runPrefix h ih, walk_comment h ih, walk_runInfix h ih, walk_exprList h ih, walk_exprListLoop h ih, walk_hash h ih,
      walk_params h ih, walk_paramLoop h ih, walk_block h ih, walk_blockLoop h ih, walk_if h ih, walk_elseLoop h ih,
      walk_for h ih, walk_forNames h ih⟩

theorem Pres.programLoop {R : PS → PS → Prop} (h : Closed R) (fuel : Nat) : ∀ n acc, Pres R (programLoop n fuel acc)
  | 0, _ => fun s => by unfold P.programLoop; exact (PC_throw ..).mpr trivial
  | n+1, _ => by
    unfold P.programLoop
    apply Pres.bind h (Pres.read h fun _ => ⟨_, rfl⟩); intro _
    apply Pres.ite
    · apply Pres.bind h (h.all fuel).stmt; intro _
      exact Pres.bind h (Pres.nextTok h) fun _ => Pres.programLoop h fuel n _
    · exact Pres.read h fun _ => ⟨_, rfl⟩

end P
end Plush
