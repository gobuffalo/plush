import PlushProofs.Lib.ParserTotal
import PlushProofs.Lib.ParserSteps
/-!
  Theorem C (DESIGN §6 C06): an expression tree printed with the minimal parentheses parses back to itself. `PE` is
  the fragment (atoms, binary and prefix operators, index expressions, calls of a plain name, array literals), `pr`
  the printer, `parse_print` the theorem.
  The induction (`main_both`) is over the tree and in continuation form, which is the form the Pratt parser has:
  `parseExpression` ends in the operator loop, and a turn of the loop (`infix_step`, `index_step`, `call_step`) is
  `parseExpression` and the loop again. `MainStmt e`: started on the first token of `e`, printed anywhere in the
  array, `parseExpression` does whatever the operator loop does from the last token of `e` with the tree of `e` as
  left operand (`Kont`). Each case is then the step lemma of its parse function applied to the induction hypotheses,
  and it is the caller who says where the loop stops (`Kont.of_stops`). All a case hands down is what the token
  behind a subexpression may be (`edge`, `Stops`). Positions are the ends of segments (`Seg`); the budget has the form of Theorem B's, `C` per token in front of a fixed index.
-/
namespace Plush
namespace P

/-- source-level expression trees; `bin` carries the parenthesis tokens that are printed when the context demands
    them. A non-empty argument / element list is spelled in the same type, with `aone` (the last argument) and `acons`
    (an argument, a comma, more arguments), so that one structural induction (`main_both`) serves expressions and lists. -/
inductive PE
  | atom (c : Token) (x : Expr)
  | bin (o lp rp : Token) (l r : PE)
  | pre (o : Token) (r : PE)
  | idx (lb rb : Token) (l i : PE)
  | call0 (fn lp rp : Token)
  | call (fn lp rp : Token) (args : PE)
  | arr0 (lb rb : Token)
  | arr (lb rb : Token) (elems : PE)
  | aone (e : PE)
  | acons (e : PE) (comma : Token) (rest : PE)

/-- what an index can be applied to without parentheses: an atom, another index (`a[i][j]`), a call (`f(x)[i]`) or an
    array literal (`[a, b][i]`) -/
def PE.isPost : PE → Bool
  | .atom _ _ => true
  | .idx _ _ _ _ => true
  | .call0 _ _ _ => true
  | .call _ _ _ _ => true
  | .arr0 _ _ => true
  | .arr _ _ _ => true
  | _ => false

/-- the function of a call, as the parser builds it from the name token -/
def fnExpr (fn : Token) : Expr := .ident { tok := fn, segs := splitOn1 46 fn.lit }

mutual
def PE.toExpr : PE → Expr
  | .atom _ x => x
  | .bin o _ _ l r => .inf o o.lit (some l.toExpr) (some r.toExpr)
  | .pre o r => .pre o o.lit (some r.toExpr)
  | .idx lb _ l i => .idx lb (some l.toExpr) (some i.toExpr) none none
  | .call0 fn lp _ => .call lp none none (fnExpr fn) (some []) none
  | .call fn lp _ a => .call lp none none (fnExpr fn) (some a.toArgs) none
  | .arr0 lb _ => .arr lb (some [])
  | .arr lb _ a => .arr lb (some a.toArgs)
  | .aone _ => .brk default
  | .acons _ _ _ => .brk default
def PE.toArgs : PE → List (Option Expr)
  | .aone e => [some e.toExpr]
  | .acons e _ r => some e.toExpr :: r.toArgs
  | _ => []
end

mutual
/-- the trees the printer and the parser agree on (in the call cases `46 ∉ fn.lit`: the function is an undotted name) -/
def PE.WF : PE → Prop
  | .atom c x => atomOf c = some x
  | .bin o lp rp l r =>
      lookupLast o.type Gen.infixFns = some .parseInfixExpression ∧ Gen.LOWEST < precOf o.type ∧
      lp.type = .LPAREN ∧ rp.type = .RPAREN ∧ l.WF ∧ r.WF
  | .pre o r => lookupLast o.type Gen.prefixFns = some .parsePrefixExpression ∧ r.WF
  | .idx lb rb l i => lb.type = .LBRACKET ∧ rb.type = .RBRACKET ∧ l.isPost = true ∧ l.WF ∧ i.WF
  | .call0 fn lp rp => fn.type = .IDENT ∧ (46 : UInt8) ∉ fn.lit ∧ lp.type = .LPAREN ∧ rp.type = .RPAREN
  | .call fn lp rp a => fn.type = .IDENT ∧ (46 : UInt8) ∉ fn.lit ∧ lp.type = .LPAREN ∧ rp.type = .RPAREN ∧ a.WFA
  | .arr0 lb rb => lb.type = .LBRACKET ∧ rb.type = .RBRACKET
  | .arr lb rb a => lb.type = .LBRACKET ∧ rb.type = .RBRACKET ∧ a.WFA
  | .aone _ => False
  | .acons _ _ _ => False
def PE.WFA : PE → Prop
  | .aone e => e.WF
  | .acons e c r => e.WF ∧ c.type = .COMMA ∧ r.WFA
  | _ => False
end

/-- printing with the minimal parentheses for a context of binding power `p`:
    left operands at the operator's own level (left associative), right operands one level tighter -/
def pr (p : Nat) : PE → List Token
  | .atom c _ => [c]
  | .bin o lp rp l r =>
    let body := pr (precOf o.type) l ++ [o] ++ pr (precOf o.type + 1) r
    if precOf o.type < p then [lp] ++ body ++ [rp] else body
  | .pre o r => o :: pr (Gen.PREFIX + 1) r
  | .idx lb rb l i => pr Gen.INDEX l ++ [lb] ++ pr (Gen.LOWEST + 1) i ++ [rb]
  | .call0 fn lp rp => [fn, lp, rp]
  | .call fn lp rp a => [fn, lp] ++ pr 0 a ++ [rp]
  | .arr0 lb rb => [lb, rb]
  | .arr lb rb a => [lb] ++ pr 0 a ++ [rb]
  | .aone e => pr (Gen.LOWEST + 1) e
  | .acons e c r => pr (Gen.LOWEST + 1) e ++ [c] ++ pr 0 r

theorem pr_ne_nil (p : Nat) (e : PE) : pr p e ≠ [] := by
  induction e generalizing p with
  | bin o lp rp l r => simp only [pr]; split <;> simp
  | aone e ih => exact ih _
  | _ => simp [pr]

def At (s : PS) (i : Nat) (ts : List Token) : Prop := ∀ k (h : k < ts.length), tokAt s (i + k) = ts[k]

/-- no registered binary operator binds tighter than the operand of a prefix operator is parsed at -/
theorem infix_prec_le {t : TT} (h : lookupLast t Gen.infixFns = some .parseInfixExpression) : precOf t ≤ Gen.PREFIX := by
  have := lookupLast_mem h
  simp only [Gen.infixFns, List.mem_cons, Prod.mk.injEq, List.not_mem_nil, or_false, and_true, reduceCtorEq, and_false] at this
  rcases this with h | h | h | h | h | h | h | h | h | h | h | h | h <;> subst h <;> decide

theorem atomOf_ne {c : Token} {x : Expr} (h : atomOf c = some x) :
    c.type ≠ .EOF ∧ c.type ≠ .RPAREN ∧ c.type ≠ .RBRACKET := by
  unfold atomOf at h; split at h <;> simp_all

theorem atomOf_ident (fn : Token) (h : fn.type = .IDENT) : atomOf fn = some (fnExpr fn) := by
  simp [atomOf, h, fnExpr]

theorem ident_ne_eof : TT.IDENT ≠ TT.EOF := by decide

theorem infix_step (f q : Nat) (l : Expr) (s : PS) (Q : Option Expr → PS → Prop)
    (hfn : lookupLast (tokAt s (s.pos + 1)).type Gen.infixFns = some .parseInfixExpression)
    (hq : q < precOf (tokAt s (s.pos + 1)).type)
    (h : OK (parseExpression f (precOf (tokAt s (s.pos + 1)).type)) { s with pos := s.pos + 1 + 1 }
          (fun r s' => OK (infixLoop (f+1) q (some (.inf (tokAt s (s.pos + 1)) (tokAt s (s.pos + 1)).lit (some l) r))) s' Q)) :
    OK (infixLoop (f+2) q (some l)) s Q := by
  refine loop_step _ q _ _ s Q hfn hq ?_
  rw [runInfix_eq]
  simp only [OK_bind, OK_cur, OK_curPrecedence, OK_nextTok, OK_pure]
  exact h

theorem paren_step (f q : Nat) (s : PS) (Q : Option Expr → PS → Prop)
    (hlp : (tokAt s s.pos).type = .LPAREN)
    (h : OK (parseExpression f Gen.LOWEST) { s with pos := s.pos + 1 } (fun r s' =>
          ((tokAt s' (s'.pos + 1)).type == TT.RPAREN) = true ∧
          OK (infixLoop (f+1) q r) { s' with pos := s'.pos + 1 } Q)) :
    OK (parseExpression (f+2) q) s Q := by
  refine expr_step _ q _ s Q (by rw [hlp]; rfl) ?_
  rw [runPrefix_eq]
  simp only [OK_bind, OK_cur, OK_nextTok, OK_expectPeek]
  refine OK_conseq h ?_
  intro r s' ⟨h1, h2⟩
  simpa only [h1, if_true, Bool.not_true, Bool.false_eq_true, if_false, OK_pure] using h2

theorem prefix_step (f q : Nat) (s : PS) (Q : Option Expr → PS → Prop)
    (hfn : lookupLast (tokAt s s.pos).type Gen.prefixFns = some .parsePrefixExpression)
    (h : OK (parseExpression f Gen.PREFIX) { s with pos := s.pos + 1 } (fun r s' =>
          OK (infixLoop (f+1) q (some (.pre (tokAt s s.pos) (tokAt s s.pos).lit r))) s' Q)) :
    OK (parseExpression (f+2) q) s Q := by
  refine expr_step _ q _ s Q hfn ?_
  rw [runPrefix_eq]
  simpa only [OK_bind, OK_cur, OK_nextTok, OK_pure] using h

theorem arr_step (f q : Nat) (s : PS) (Q : Option Expr → PS → Prop)
    (hlb : (tokAt s s.pos).type = .LBRACKET)
    (h : OK (parseExpressionList f .RBRACKET) s (fun es s' =>
          OK (infixLoop (f+1) q (some (.arr (tokAt s s.pos) es))) s' Q)) :
    OK (parseExpression (f+2) q) s Q := by
  refine expr_step _ q _ s Q (by rw [hlb]; rfl) ?_
  rw [runPrefix_eq]
  simpa only [OK_bind, OK_cur, OK_pure] using h

theorem index_step (f q : Nat) (l : Expr) (s : PS) (Q : Option Expr → PS → Prop)
    (hlb : (tokAt s (s.pos + 1)).type = .LBRACKET) (hq : q < Gen.INDEX)
    (h : OK (parseExpression f Gen.LOWEST) { s with pos := s.pos + 1 + 1 } (fun r s' =>
          ((tokAt s' (s'.pos + 1)).type == TT.RBRACKET) = true ∧
          ((tokAt s' (s'.pos + 1 + 1)).type == TT.DOT) = false ∧
          ((tokAt s' (s'.pos + 1 + 1)).type == TT.ASSIGN) = false ∧
          OK (infixLoop (f+1) q (some (.idx (tokAt s (s.pos + 1)) (some l) r none none))) { s' with pos := s'.pos + 1 } Q)) :
    OK (infixLoop (f+2) q (some l)) s Q := by
  refine loop_step _ q .parseIndexExpression _ s Q (by rw [hlb]; rfl) (by rw [hlb]; exact hq) ?_
  rw [runInfix_eq]
  simp only [OK_bind, OK_cur, OK_nextTok]
  refine OK_conseq h ?_
  intro r s' ⟨h1, h2, h3, h4⟩
  have h2' : ((tokAt { s' with pos := s'.pos + 1 } (s'.pos + 1 + 1)).type == TT.DOT) = false := h2
  have h3' : ((tokAt { s' with pos := s'.pos + 1 } (s'.pos + 1 + 1)).type == TT.ASSIGN) = false := h3
  simp only [OK_expectPeek, h1, if_true, Bool.not_true, Bool.false_eq_true, if_false, OK_bind, OK_peekIs, OK_ite, OK_pure, h2', h3']
  exact h4

theorem pExpr_fnExpr (fn : Token) (h : (46 : UInt8) ∉ fn.lit) : pExpr (fnExpr fn) = fn.lit := by
  show Ident.str _ = _
  simp [Ident.str, splitOn1_no_sep fn.lit h, joinWith]

theorem call_step (f q : Nat) (fn : Token) (s : PS) (Q : Option Expr → PS → Prop)
    (hfn : (46 : UInt8) ∉ fn.lit) (hlp : (tokAt s (s.pos + 1)).type = .LPAREN) (hq : q < Gen.CALL)
    (h : OK (parseExpressionList f .RPAREN) { s with pos := s.pos + 1 } (fun args s' =>
          ((tokAt s' (s'.pos + 1)).type == TT.LBRACE) = false ∧
          ((tokAt s' (s'.pos + 1)).type == TT.DOT) = false ∧
          OK (infixLoop (f+1) q (some (.call (tokAt s (s.pos + 1)) none none (fnExpr fn) args none))) s' Q)) :
    OK (infixLoop (f+2) q (some (fnExpr fn))) s Q := by
  refine loop_step _ q .parseCallExpression _ s Q (by rw [hlp]; rfl) (by rw [hlp]; exact hq) ?_
  have hss : ¬ ((splitOn1 46 (pExpr (fnExpr fn))).length > 1) := by
    rw [pExpr_fnExpr fn hfn, splitOn1_no_sep fn.lit hfn]; simp
  rw [runInfix_eq]
  simp only [OK_bind, OK_cur, hss, if_false]
  refine OK_conseq h ?_
  intro args s' ⟨h1, h2, h3⟩
  simp only [OK_bind, OK_peekIs, OK_ite, OK_pure, h1, h2, Bool.false_eq_true, if_false]
  exact h3

theorem exprList_empty (f : Nat) (end_ : TT) (s : PS) (Q : Option (List (Option Expr)) → PS → Prop)
    (hr : (tokAt s (s.pos + 1)).type = end_) (h : Q (some []) { s with pos := s.pos + 1 }) :
    OK (parseExpressionList (f+1) end_) s Q := by
  rw [parseExpressionList_eq]
  have : ((tokAt s (s.pos + 1)).type == end_) = true := by rw [hr]; simp
  simp only [OK_bind, OK_peekIs, OK_ite, this, if_true, OK_nextTok, OK_pure]
  exact h

theorem exprList_nonempty (f : Nat) (end_ : TT) (s : PS) (Q : Option (List (Option Expr)) → PS → Prop)
    (hr : (tokAt s (s.pos + 1)).type ≠ end_)
    (h : OK (parseExpression f Gen.LOWEST >>= fun e => exprListLoop f [e]) { s with pos := s.pos + 1 } (fun l s' =>
          ((tokAt s' (s'.pos + 1)).type == end_) = true ∧ Q (some l) { s' with pos := s'.pos + 1 })) :
    OK (parseExpressionList (f+1) end_) s Q := by
  rw [parseExpressionList_eq]
  have : ((tokAt s (s.pos + 1)).type == end_) = false := by simpa using hr
  simp only [OK_bind, OK_peekIs, OK_ite, this, Bool.false_eq_true, if_false, OK_nextTok]
  simp only [OK_bind] at h
  refine OK_conseq h ?_
  intro e s1 h1
  refine OK_conseq h1 ?_
  intro l s2 ⟨h2, h3⟩
  simp only [OK_expectPeek, h2, if_true, Bool.not_true, Bool.false_eq_true, if_false, OK_pure]
  exact h3

theorem exprLoop_stops (f : Nat) (acc : List (Option Expr)) (s : PS) (Q : List (Option Expr) → PS → Prop)
    (hc : (tokAt s (s.pos + 1)).type ≠ .COMMA) (h : Q acc s) : OK (exprListLoop (f+1) acc) s Q := by
  rw [exprListLoop_eq]
  have : ((tokAt s (s.pos + 1)).type == TT.COMMA) = false := by simpa using hc
  simp only [OK_bind, OK_peekIs, OK_ite, this, Bool.false_eq_true, if_false, OK_pure]
  exact h

theorem exprLoop_comma (f : Nat) (acc : List (Option Expr)) (s : PS) (Q : List (Option Expr) → PS → Prop)
    (hc : (tokAt s (s.pos + 1)).type = .COMMA)
    (h : OK (parseExpression f Gen.LOWEST >>= fun e => exprListLoop f (acc ++ [e])) { s with pos := s.pos + 1 + 1 } Q) :
    OK (exprListLoop (f+1) acc) s Q := by
  rw [exprListLoop_eq]
  have : ((tokAt s (s.pos + 1)).type == TT.COMMA) = true := by rw [hc]; rfl
  simp only [OK_bind, OK_peekIs, OK_ite, this, if_true, OK_nextTok]
  simpa only [OK_bind] using h

theorem At_append_left {s : PS} {i : Nat} {a c : List Token} (h : At s i (a ++ c)) : At s i a := by
  intro k hk
  have := h k (by simp; omega)
  rw [this, List.getElem_append_left hk]

theorem At_append_right {s : PS} {i : Nat} {a c : List Token} (h : At s i (a ++ c)) : At s (i + a.length) c := by
  intro k hk
  have := h (a.length + k) (by simp; omega)
  rw [Nat.add_assoc, this, List.getElem_append_right (by omega)]
  simp

theorem At_in_range {s : PS} (e : EofOK s) {i : Nat} {ts : List Token} (h : At s i ts)
    (hne : ∀ t ∈ ts, t.type ≠ .EOF) (hnil : ts ≠ []) : i + ts.length ≤ s.toks.size := by
  cases hl : ts.length with
  | zero => exact absurd (List.length_eq_zero_iff.mp hl) hnil
  | succ n =>
    have := h n (by omega)
    have h2 := lt_size_of_ne_eof e (i := i + n) (by rw [this]; exact hne _ (List.getElem_mem _))
    omega

/-- the tokens `ts` occupy the indices `i, …, j - 1`: `At` with the end named, so that the pieces of a printed
    expression are met as positions and never as sums of lengths -/
def Seg (s : PS) : Nat → List Token → Nat → Prop
  | i, [], j => j = i
  | i, t :: ts, j => tokAt s i = t ∧ Seg s (i + 1) ts j

theorem Seg_nil (s : PS) (i j : Nat) : Seg s i [] j ↔ j = i := Iff.rfl
theorem Seg_cons (s : PS) (i j : Nat) (t : Token) (ts : List Token) :
    Seg s i (t :: ts) j ↔ tokAt s i = t ∧ Seg s (i + 1) ts j := Iff.rfl

theorem Seg_append (s : PS) (a c : List Token) : ∀ i k, Seg s i (a ++ c) k ↔ ∃ j, Seg s i a j ∧ Seg s j c k := by
  induction a with
  | nil => intro i k; simp [Seg]
  | cons t a ih => intro i k; simp [Seg, ih, and_assoc]

theorem Seg.len {s : PS} : ∀ {ts : List Token} {i j : Nat}, Seg s i ts j → j = i + ts.length
  | [], _, _, h => h
  | _ :: _, _, _, h => by rw [h.2.len, List.length_cons]; omega

theorem Seg.lt {s : PS} {p : Nat} {e : PE} {i j : Nat} (h : Seg s i (pr p e) j) : i < j := by
  have := h.len; have := List.length_pos_iff.mpr (pr_ne_nil p e); omega

theorem Seg_of_At {s : PS} : ∀ {ts : List Token} {i : Nat}, At s i ts → Seg s i ts (i + ts.length)
  | [], _, _ => rfl
  | t :: ts, i, h => ⟨h 0 (Nat.zero_lt_succ _), by
      simpa [Nat.add_assoc, Nat.add_comm 1] using Seg_of_At (At_append_right (a := [t]) h)⟩

theorem pr_types (e : PE) : ∀ p, (e.WF ∨ e.WFA) → ∀ t ∈ pr p e, t.type ≠ .EOF := by
  induction e with
  | atom c x =>
    rintro p (h | ⟨⟨⟩⟩)
    simp only [pr, List.forall_mem_singleton]; exact (atomOf_ne h).1
  | bin o lp rp l r ihl ihr =>
    rintro p (⟨hfn, _, hlp, hrp, hl, hr⟩ | ⟨⟨⟩⟩)
    simp only [pr]
    split <;> simp only [List.forall_mem_append, List.forall_mem_singleton]
    · exact ⟨⟨type_ne hlp (by decide), ⟨ihl _ (.inl hl), lookupLast_ne hfn (by decide)⟩, ihr _ (.inl hr)⟩, type_ne hrp (by decide)⟩
    · exact ⟨⟨ihl _ (.inl hl), lookupLast_ne hfn (by decide)⟩, ihr _ (.inl hr)⟩
  | pre o r ih =>
    rintro p (⟨hfn, hr⟩ | ⟨⟨⟩⟩)
    simp only [pr, List.forall_mem_cons]; exact ⟨lookupLast_ne hfn (by decide), ih _ (.inl hr)⟩
  | idx lb rb l i ihl ihi =>
    rintro p (⟨hlb, hrb, _, hl, hi⟩ | ⟨⟨⟩⟩)
    simp only [pr, List.forall_mem_append, List.forall_mem_singleton]
    exact ⟨⟨⟨ihl _ (.inl hl), type_ne hlb (by decide)⟩, ihi _ (.inl hi)⟩, type_ne hrb (by decide)⟩
  | call0 fn lp rp =>
    rintro p (⟨hfn, _, hlp, hrp⟩ | ⟨⟨⟩⟩)
    simp only [pr, List.forall_mem_cons, List.not_mem_nil, false_imp_iff, implies_true, and_true]
    exact ⟨type_ne hfn (by decide), type_ne hlp (by decide), type_ne hrp (by decide)⟩
  | call fn lp rp a iha =>
    rintro p (⟨hfn, _, hlp, hrp, ha⟩ | ⟨⟨⟩⟩)
    simp only [pr, List.forall_mem_append, List.forall_mem_cons, List.not_mem_nil, false_imp_iff, implies_true, and_true]
    exact ⟨⟨⟨type_ne hfn (by decide), type_ne hlp (by decide)⟩, iha _ (.inr ha)⟩, type_ne hrp (by decide)⟩
  | arr0 lb rb =>
    rintro p (⟨hlb, hrb⟩ | ⟨⟨⟩⟩)
    simp only [pr, List.forall_mem_cons, List.not_mem_nil, false_imp_iff, implies_true, and_true]
    exact ⟨type_ne hlb (by decide), type_ne hrb (by decide)⟩
  | arr lb rb a iha =>
    rintro p (⟨hlb, hrb, ha⟩ | ⟨⟨⟩⟩)
    simp only [pr, List.forall_mem_append, List.forall_mem_singleton]
    exact ⟨⟨type_ne hlb (by decide), iha _ (.inr ha)⟩, type_ne hrb (by decide)⟩
  | aone e ih => rintro p (⟨⟨⟩⟩ | h); exact ih _ (.inl h)
  | acons e c r ihe ihr =>
    rintro p (⟨⟨⟩⟩ | ⟨he, hc, hr⟩)
    simp only [pr, List.forall_mem_append, List.forall_mem_singleton]
    exact ⟨⟨ihe _ (.inl he), type_ne hc (by decide)⟩, ihr _ (.inr hr)⟩

theorem pr_head (e : PE) : ∀ p, (e.WF ∨ e.WFA) → ∃ t rest, pr p e = t :: rest ∧ t.type ≠ .RPAREN ∧ t.type ≠ .RBRACKET := by
  induction e with
  | atom c x => rintro p (h | ⟨⟨⟩⟩); exact ⟨c, [], rfl, (atomOf_ne h).2⟩
  | bin o lp rp l r ihl _ =>
    rintro p (⟨_, _, hlp, _, hl, _⟩ | ⟨⟨⟩⟩)
    obtain ⟨t, rest, ht, hne⟩ := ihl (precOf o.type) (.inl hl)
    simp only [pr, ht]
    split
    · exact ⟨lp, _, rfl, type_ne hlp (by decide), type_ne hlp (by decide)⟩
    · exact ⟨t, _, rfl, hne⟩
  | pre o r _ => rintro p (⟨hfn, _⟩ | ⟨⟨⟩⟩); exact ⟨o, _, rfl, lookupLast_ne hfn (by decide), lookupLast_ne hfn (by decide)⟩
  | idx lb rb l i ihl _ =>
    rintro p (⟨_, _, _, hl, _⟩ | ⟨⟨⟩⟩)
    obtain ⟨t, rest, ht, hne⟩ := ihl Gen.INDEX (.inl hl)
    exact ⟨t, _, by simp only [pr, ht]; rfl, hne⟩
  | call0 fn lp rp => rintro p (⟨hfn, _⟩ | ⟨⟨⟩⟩); exact ⟨fn, _, rfl, type_ne hfn (by decide), type_ne hfn (by decide)⟩
  | call fn lp rp a _ => rintro p (⟨hfn, _⟩ | ⟨⟨⟩⟩); exact ⟨fn, _, rfl, type_ne hfn (by decide), type_ne hfn (by decide)⟩
  | arr0 lb rb => rintro p (⟨hlb, _⟩ | ⟨⟨⟩⟩); exact ⟨lb, _, rfl, type_ne hlb (by decide), type_ne hlb (by decide)⟩
  | arr lb rb a _ => rintro p (⟨hlb, _⟩ | ⟨⟨⟩⟩); exact ⟨lb, _, rfl, type_ne hlb (by decide), type_ne hlb (by decide)⟩
  | aone e ih => rintro p (⟨⟨⟩⟩ | h); exact ih _ (.inl h)
  | acons e c r ihe _ =>
    rintro p (⟨⟨⟩⟩ | ⟨he, _⟩)
    obtain ⟨t, rest, ht, hne⟩ := ihe (Gen.LOWEST + 1) (.inl he)
    exact ⟨t, _, by simp only [pr, ht]; rfl, hne⟩

theorem Seg.head {s : PS} {e : PE} {p i j : Nat} (h : Seg s i (pr p e) j) (hw : e.WF ∨ e.WFA) :
    (tokAt s i).type ≠ .RPAREN ∧ (tokAt s i).type ≠ .RBRACKET := by
  obtain ⟨t, rest, ht, hne⟩ := pr_head e p hw
  rw [ht] at h; rw [h.1]; exact hne

/-- a token after which an operand is complete as it stands: none of `=` (assignment), `.` (callee chain), `{` (block argument) -/
def NoSuffix (nt : Token) : Prop := nt.type ≠ .ASSIGN ∧ nt.type ≠ .DOT ∧ nt.type ≠ .LBRACE

/-- … and in front of which an operator loop of binding power `b` stops -/
def Stops (b : Nat) (nt : Token) : Prop := precOf nt.type ≤ b ∧ NoSuffix nt

theorem Stops.mono {b b' : Nat} {nt : Token} (h : Stops b nt) (hb : b ≤ b') : Stops b' nt := ⟨Nat.le_trans h.1 hb, h.2⟩

theorem stops_closer {nt : Token} (h : nt.type = .RPAREN ∨ nt.type = .RBRACKET ∨ nt.type = .COMMA) : Stops Gen.LOWEST nt := by
  unfold Stops NoSuffix
  rcases h with h | h | h <;> rw [h] <;> decide

theorem stops_infix {o : Token} (h : lookupLast o.type Gen.infixFns = some .parseInfixExpression) : Stops (precOf o.type) o :=
  ⟨Nat.le_refl _, lookupLast_ne h (by decide), lookupLast_ne h (by decide), lookupLast_ne h (by decide)⟩

/-- what the code that parses the LAST piece of `e` (printed at level `p`) asks of the token that follows -/
def edge (p : Nat) : PE → Token → Prop
  | .bin o _ _ _ _, nt => precOf o.type < p ∨ Stops (precOf o.type) nt
  | .pre _ r, nt => precOf nt.type ≤ Gen.PREFIX ∧ edge (Gen.PREFIX + 1) r nt
  | _, nt => NoSuffix nt

theorem edge_of_stops (e : PE) {p b : Nat} {nt : Token} (hP : b ≤ Gen.PREFIX) (hp : b ≤ p) (h : Stops b nt) : edge p e nt := by
  induction e generalizing p with
  | bin o lp rp l r => exact if hlt : precOf o.type < p then .inl hlt else .inr (h.mono (by omega))
  | pre o r ih => exact ⟨Nat.le_trans h.1 hP, ih (Nat.le_succ_of_le hP)⟩
  | _ => exact h.2

theorem edge_post {e : PE} (p : Nat) {nt : Token} (h : e.isPost = true) (hnt : NoSuffix nt) : edge p e nt := by
  cases e <;> first | exact hnt | cases h

/-- the continuation a parsed operand hands over to: the operator loop with the cursor on the operand's last token
    (index `j - 1`). The budget is that of Theorem B, `C` per token still in front of a fixed index `J`, written
    without subtraction: the fuel `f` at index `i` satisfies `C * J < f + C * i`. -/
def Kont (s : PS) (J j q : Nat) (x : Expr) (Q : Option Expr → PS → Prop) : Prop :=
  ∀ f k, k + 1 = j → C * J < f + C * j → OK (infixLoop f q (some x)) (s.at k) Q

theorem Kont.of_stops {s : PS} {J j q : Nat} {x : Expr} {Q : Option Expr → PS → Prop} (hJ : j ≤ J)
    (hp : precOf (tokAt s j).type ≤ q) (h : ∀ k, k + 1 = j → Q (some x) (s.at k)) : Kont s J j q x Q := by
  intro f k hk hf
  subst hk
  obtain ⟨g, rfl⟩ := Nat.exists_eq_add_of_le' (show 1 ≤ f by fuel_tac)
  exact loop_stops g q _ (s.at k) Q hp (h k rfl)

/-- `q` is the binding power `parseExpression` is called with, `p` the level `e` was printed at: `q < p` says that the
    print has its parentheses wherever this call would stop short of the whole of `e`; no caller asks for more than
    `PREFIX`. `i`, `j`: where the print of `e` starts and ends; `J`: the index the budget counts down to. -/
def MainStmt (e : PE) : Prop := ∀ (s : PS) (J q p i j f : Nat) (Q : Option Expr → PS → Prop),
    e.WF → q < p → q ≤ Gen.PREFIX → Seg s i (pr p e) j → j ≤ J → edge p e (tokAt s j) →
    C * J < f + C * i → Kont s J j q e.toExpr Q → OK (parseExpression f q) (s.at i) Q

/-- the round trip for a non-empty argument list: "parse an expression, then run the comma loop" collects exactly the
    arguments and stops on the last token in front of the closing one -/
def ArgsStmt (a : PE) : Prop := ∀ (s : PS) (J i j f : Nat) (acc : List (Option Expr)) (Q : List (Option Expr) → PS → Prop),
    a.WFA → Seg s i (pr 0 a) j → j ≤ J → (tokAt s j).type ≠ .COMMA → Stops Gen.LOWEST (tokAt s j) →
    C * J < f + C * i → (∀ k, k + 1 = j → Q (acc ++ a.toArgs) (s.at k)) →
    OK (parseExpression f Gen.LOWEST >>= fun e => exprListLoop f (acc ++ [e])) (s.at i) Q

theorem main_both (e : PE) : MainStmt e ∧ ArgsStmt e := by
  induction e with
  | atom c x =>
    refine ⟨?_, fun _ _ _ _ _ _ _ h => h.elim⟩
    intro s J q p i j f Q hwf _ _ hseg hJ hedge hf K
    obtain ⟨rfl, rfl⟩ := hseg
    obtain ⟨g, rfl⟩ := Nat.exists_eq_add_of_le' (show 2 ≤ f by fuel_tac)
    exact atom_step g q x (s.at i) Q hwf hedge.1 (K (g + 1) i rfl (by fuel_tac))
  | bin o lp rp l r ihl ihr =>
    refine ⟨?_, fun _ _ _ _ _ _ _ h => h.elim⟩
    intro s J q0 p i0 j0 f0 Q0 ⟨hfn, hlow, hlp, hrp, hwl, hwr⟩ hqp hqP hseg hJ hedge hf K
    -- the unparenthesised body  l o r
    have body : ∀ (q i j1 j f : Nat) (Q : Option Expr → PS → Prop), q < precOf o.type → q ≤ Gen.PREFIX →
        Seg s i (pr (precOf o.type) l) j1 → tokAt s j1 = o → Seg s (j1 + 1) (pr (precOf o.type + 1) r) j → j ≤ J →
        Stops (precOf o.type) (tokAt s j) → C * J < f + C * i → Kont s J j q (PE.bin o lp rp l r).toExpr Q →
        OK (parseExpression f q) (s.at i) Q := by
      intro q i j1 j f Q hq hqP hl ho hr hJ hnt hf K
      subst ho
      have := hl.lt; have := hr.lt
      refine ihl.1 s J q _ i j1 f Q hwl hq hqP hl (by omega)
        (edge_of_stops l (infix_prec_le hfn) (Nat.le_refl _) (stops_infix hfn)) hf ?_
      intro f1 k hk hf1
      subst hk
      obtain ⟨g, rfl⟩ := Nat.exists_eq_add_of_le' (show 2 ≤ f1 by fuel_tac)
      refine infix_step g q _ (s.at k) Q hfn hq ?_
      exact ihr.1 s J _ _ (k + 1 + 1) j g _ hwr (Nat.lt_succ_self _) (infix_prec_le hfn) hr hJ
        (edge_of_stops r (infix_prec_le hfn) (Nat.le_succ _) hnt) (by fuel_tac)
        (.of_stops hJ hnt.1 fun k2 hk2 => K (g + 1) k2 hk2 (by fuel_tac))
    by_cases hp : precOf o.type < p
    · -- parenthesised:  lp  l o r  rp
      simp only [pr, if_pos hp, Seg_append, Seg_cons, Seg_nil] at hseg
      obtain ⟨j2, ⟨_, ⟨rfl, rfl⟩, _, ⟨j1, hl, ho, rfl⟩, hr⟩, rfl, rfl⟩ := hseg
      have := hl.lt; have := hr.lt
      obtain ⟨g, rfl⟩ := Nat.exists_eq_add_of_le' (show 2 ≤ f0 by fuel_tac)
      refine paren_step g q0 (s.at i0) Q0 hlp ?_
      refine body Gen.LOWEST (i0 + 1) j1 j2 g _ hlow (by decide) hl ho hr (by omega)
        ((stops_closer (.inl hrp)).mono (Nat.le_of_lt hlow)) (by fuel_tac)
        (.of_stops (by omega) (stops_closer (.inl hrp)).1 fun k hk => ?_)
      subst hk
      exact ⟨beq_iff_eq.mpr hrp, K (g + 1) (k + 1) rfl (by fuel_tac)⟩
    · simp only [pr, if_neg hp, Seg_append, Seg_cons, Seg_nil] at hseg
      obtain ⟨_, ⟨j1, hl, ho, rfl⟩, hr⟩ := hseg
      exact body q0 i0 j1 j0 f0 Q0 (by omega) hqP hl ho hr hJ (hedge.resolve_left hp) hf K
  | pre o r ih =>
    refine ⟨?_, fun _ _ _ _ _ _ _ h => h.elim⟩
    intro s J q p i j f Q ⟨hfn, hwr⟩ _ hqP hseg hJ hedge hf K
    obtain ⟨rfl, hr⟩ := hseg
    have := hr.lt
    obtain ⟨g, rfl⟩ := Nat.exists_eq_add_of_le' (show 2 ≤ f by fuel_tac)
    refine prefix_step g q (s.at i) Q hfn ?_
    exact ih.1 s J Gen.PREFIX _ (i + 1) j g _ hwr (Nat.lt_succ_self _) (Nat.le_refl _) hr hJ hedge.2 (by fuel_tac)
      (.of_stops hJ hedge.1 fun k hk => K (g + 1) k hk (by fuel_tac))
  | idx lb rb l ix ihl ihi =>
    refine ⟨?_, fun _ _ _ _ _ _ _ h => h.elim⟩
    intro s J q p i j f Q ⟨hlb, hrb, hpost, hwl, hwi⟩ _ hqP hseg hJ hedge hf K
    simp only [pr, Seg_append, Seg_cons, Seg_nil] at hseg
    obtain ⟨j3, ⟨_, ⟨j1, hl, rfl, rfl⟩, hi⟩, rfl, rfl⟩ := hseg
    have := hl.lt; have := hi.lt
    have hQI : q < Gen.INDEX := Nat.lt_of_le_of_lt hqP (by decide)
    refine ihl.1 s J q _ i j1 f Q hwl hQI hqP hl (by omega)
      (edge_post _ hpost (by unfold NoSuffix; rw [hlb]; decide)) hf ?_
    intro f1 k hk hf1
    subst hk
    obtain ⟨g, rfl⟩ := Nat.exists_eq_add_of_le' (show 2 ≤ f1 by fuel_tac)
    refine index_step g q _ (s.at k) Q hlb hQI ?_
    have hst := stops_closer (.inr (.inl hrb))
    refine ihi.1 s J Gen.LOWEST _ (k + 1 + 1) j3 g _ hwi (Nat.lt_succ_self _) (by decide) hi (by omega)
      (edge_of_stops ix (by decide) (Nat.le_succ _) hst) (by fuel_tac) (.of_stops (by omega) hst.1 fun k2 hk2 => ?_)
    subst hk2
    exact ⟨beq_iff_eq.mpr hrb, beq_eq_false_iff_ne.mpr hedge.2.1, beq_eq_false_iff_ne.mpr hedge.1,
      K (g + 1) (k2 + 1) rfl (by fuel_tac)⟩
  | call0 fn lp rp =>
    refine ⟨?_, fun _ _ _ _ _ _ _ h => h.elim⟩
    intro s J q p i j f Q ⟨hfn, hnd, hlp, hrp⟩ _ hqP hseg hJ hedge hf K
    obtain ⟨rfl, rfl, rfl, rfl⟩ := hseg
    obtain ⟨g, rfl⟩ := Nat.exists_eq_add_of_le' (show 4 ≤ f by fuel_tac)
    refine atom_step (g + 2) q _ (s.at i) Q (atomOf_ident _ hfn) (type_ne hlp (by decide)) ?_
    refine call_step (g + 1) q _ (s.at i) Q hnd hlp (Nat.lt_of_le_of_lt hqP (by decide)) ?_
    exact exprList_empty g _ _ _ hrp
      ⟨beq_eq_false_iff_ne.mpr hedge.2.2, beq_eq_false_iff_ne.mpr hedge.2.1, K (g + 2) (i + 1 + 1) rfl (by fuel_tac)⟩
  | call fn lp rp a iha =>
    refine ⟨?_, fun _ _ _ _ _ _ _ h => h.elim⟩
    intro s J q p i j f Q ⟨hfn, hnd, hlp, hrp, hwa⟩ _ hqP hseg hJ hedge hf K
    simp only [pr, Seg_append, Seg_cons, Seg_nil] at hseg
    obtain ⟨j2, ⟨_, ⟨rfl, rfl, rfl⟩, ha⟩, rfl, rfl⟩ := hseg
    have := ha.lt
    obtain ⟨g, rfl⟩ := Nat.exists_eq_add_of_le' (show 4 ≤ f by fuel_tac)
    refine atom_step (g + 2) q _ (s.at i) Q (atomOf_ident _ hfn) (type_ne hlp (by decide)) ?_
    refine call_step (g + 1) q _ (s.at i) Q hnd hlp (Nat.lt_of_le_of_lt hqP (by decide)) ?_
    refine exprList_nonempty g _ _ _ (ha.head (.inr hwa)).1 ?_
    refine iha.2 s J (i + 1 + 1) j2 g [] _ hwa ha (by omega) (type_ne hrp (by decide)) (stops_closer (.inl hrp)) (by fuel_tac) ?_
    intro k hk
    subst hk
    exact ⟨beq_iff_eq.mpr hrp, beq_eq_false_iff_ne.mpr hedge.2.2, beq_eq_false_iff_ne.mpr hedge.2.1,
      K (g + 2) (k + 1) rfl (by fuel_tac)⟩
  | arr0 lb rb =>
    refine ⟨?_, fun _ _ _ _ _ _ _ h => h.elim⟩
    intro s J q p i j f Q ⟨hlb, hrb⟩ _ _ hseg hJ _ hf K
    obtain ⟨rfl, rfl, rfl⟩ := hseg
    obtain ⟨g, rfl⟩ := Nat.exists_eq_add_of_le' (show 3 ≤ f by fuel_tac)
    refine arr_step (g + 1) q (s.at i) Q hlb ?_
    exact exprList_empty g _ _ _ hrb (K (g + 2) (i + 1) rfl (by fuel_tac))
  | arr lb rb a iha =>
    refine ⟨?_, fun _ _ _ _ _ _ _ h => h.elim⟩
    intro s J q p i j f Q ⟨hlb, hrb, hwa⟩ _ _ hseg hJ _ hf K
    simp only [pr, Seg_append, Seg_cons, Seg_nil] at hseg
    obtain ⟨j2, ⟨_, ⟨rfl, rfl⟩, ha⟩, rfl, rfl⟩ := hseg
    have := ha.lt
    obtain ⟨g, rfl⟩ := Nat.exists_eq_add_of_le' (show 3 ≤ f by fuel_tac)
    refine arr_step (g + 1) q (s.at i) Q hlb ?_
    refine exprList_nonempty g _ _ _ (ha.head (.inr hwa)).2 ?_
    refine iha.2 s J (i + 1) j2 g [] _ hwa ha (by omega) (type_ne hrb (by decide)) (stops_closer (.inr (.inl hrb))) (by fuel_tac) ?_
    intro k hk
    subst hk
    exact ⟨beq_iff_eq.mpr hrb, K (g + 2) (k + 1) rfl (by fuel_tac)⟩
  | aone e ih =>
    refine ⟨fun _ _ _ _ _ _ _ _ h => h.elim, ?_⟩
    intro s J i j f acc Q hwa hseg hJ hc hnt hf hQ
    have := Seg.lt (e := e) hseg
    obtain ⟨g, rfl⟩ := Nat.exists_eq_add_of_le' (show 1 ≤ f by fuel_tac)
    simp only [OK_bind]
    refine ih.1 s J Gen.LOWEST _ i j (g + 1) _ hwa (Nat.lt_succ_self _) (by decide) hseg hJ
      (edge_of_stops e (by decide) (Nat.le_succ _) hnt) hf (.of_stops hJ hnt.1 fun k hk => ?_)
    subst hk
    exact exprLoop_stops g _ _ Q hc (hQ k rfl)
  | acons e c r ihe ihr =>
    refine ⟨fun _ _ _ _ _ _ _ _ h => h.elim, ?_⟩
    intro s J i j f acc Q ⟨hwe, hc, hwr⟩ hseg hJ hcm hnt hf hQ
    simp only [pr, Seg_append, Seg_cons, Seg_nil] at hseg
    obtain ⟨_, ⟨j1, he, rfl, rfl⟩, hr⟩ := hseg
    have := he.lt; have := hr.lt
    have hst := stops_closer (.inr (.inr hc))
    obtain ⟨g, rfl⟩ := Nat.exists_eq_add_of_le' (show 2 ≤ f by fuel_tac)
    simp only [OK_bind]
    refine ihe.1 s J Gen.LOWEST _ i j1 (g + 2) _ hwe (Nat.lt_succ_self _) (by decide) he (by omega)
      (edge_of_stops e (by decide) (Nat.le_succ _) hst) hf (.of_stops (by omega) hst.1 fun k hk => ?_)
    subst hk
    refine exprLoop_comma (g + 1) _ (s.at k) Q hc ?_
    refine ihr.2 s J (k + 1 + 1) j (g + 1) (acc ++ [some e.toExpr]) Q hwr hr hJ hcm hnt (by fuel_tac) ?_
    intro k2 hk2
    simpa [PE.toArgs, List.append_assoc] using hQ k2 hk2

/-- `parse_print` with the printed tokens named (`ts`, so that an instance can give them and close `hpr` by `decide`)
    and the condition on the token behind them in one piece -/
theorem parse_print_of (e : PE) (s : PS) (f : Nat) {ts : List Token} (hpr : pr (Gen.LOWEST + 1) e = ts) (hwf : e.WF)
    (eo : EofOK s) (hat : At s s.pos ts) (hst : Stops Gen.LOWEST (tokAt s (s.pos + ts.length))) (hf : 14 + C * rem s ≤ f) :
    parseExpression f Gen.LOWEST s = .ok (some e.toExpr, s.at (s.pos + ts.length - 1)) := by
  subst hpr
  have hin := At_in_range eo hat (pr_types e _ (.inl hwf)) (pr_ne_nil _ e)
  obtain ⟨a, s', hrun, rfl, rfl⟩ := (main_both e).1 s s.toks.size Gen.LOWEST (Gen.LOWEST + 1) s.pos _ f
    (fun r s' => r = some e.toExpr ∧ s' = s.at (s.pos + (pr (Gen.LOWEST + 1) e).length - 1)) hwf (Nat.lt_succ_self _) (by decide)
    (Seg_of_At hat) hin (edge_of_stops e (by decide) (Nat.le_succ _) hst) (by fuel_tac)
    (.of_stops hin hst.1 fun k hk => ⟨rfl, by rw [← hk]; rfl⟩)
  exact hrun

/-- THEOREM C (Pratt round trip on the parser model). Any well-formed expression tree of the fragment `PE`, printed with the
    minimal parentheses that precedence and LEFT associativity require and followed by a token of lowest binding
    power that is none of `=`, `.`, `{`, is parsed back to exactly that tree: the cursor ends on the expression's
    last token and nothing else in the parser state changes. -/
theorem parse_print (e : PE) (s : PS) (f : Nat) (hwf : e.WF) (eo : EofOK s)
    (hat : At s s.pos (pr (Gen.LOWEST + 1) e))
    (hnext : precOf (tokAt s (s.pos + (pr (Gen.LOWEST + 1) e).length)).type = Gen.LOWEST)
    (hna : (tokAt s (s.pos + (pr (Gen.LOWEST + 1) e).length)).type ≠ .ASSIGN)
    (hnd : (tokAt s (s.pos + (pr (Gen.LOWEST + 1) e).length)).type ≠ .DOT)
    (hnb : (tokAt s (s.pos + (pr (Gen.LOWEST + 1) e).length)).type ≠ .LBRACE)
    (hf : 14 + C * rem s ≤ f) :
    parseExpression f Gen.LOWEST s = .ok (some e.toExpr, s.at (s.pos + (pr (Gen.LOWEST + 1) e).length - 1)) :=
  parse_print_of e s f rfl hwf eo hat ⟨Nat.le_of_eq hnext, hna, hnd, hnb⟩ hf

end P
end Plush
