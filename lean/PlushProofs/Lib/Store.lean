import PlushModel.Ctx
/-!
  Facts about the context store of `PlushModel/Ctx.lean` that more than one property needs: `lookupKey` after `setKey`,
  `Value` after `Set` on the same context, and the order `Store.Grows` (scopes are only added, parents never change)
  with the store operations that respect it.
-/
namespace Plush

theorem lookupKey_setKey (k k' : Bytes) (v : Val) (l : List (Bytes × Val)) :
    lookupKey k' (setKey k v l) = if k' == k then some v else lookupKey k' l := by
  rw [BEq.comm (a := k')]  -- `lookupKey` and `setKey` both test `stored == sought`
  induction l with
  | nil => rfl
  | cons x r ih =>
    obtain ⟨kx, vx⟩ := x
    by_cases h : kx = k
    · subst h; simp only [setKey, lookupKey, beq_self_eq_true, if_true]; split <;> rfl
    · by_cases h3 : kx = k'
      · subst h3; simp [setKey, lookupKey, h, Ne.symm h]
      · simp [setKey, lookupKey, h, h3, ih]

theorem Store.value_set_same (st : Store) (c : Nat) (k : Bytes) (v : Val) (hc : c < st.frames.size) :
    (st.set c k v).value c k = v := by
  simp [Store.value, Store.valueF, Store.set, hc, lookupKey_setKey]

def Store.Grows (a b : Store) : Prop :=
  a.frames.size ≤ b.frames.size ∧ ∀ i, i < a.frames.size → (b.frames[i]?).map Frame.outer = (a.frames[i]?).map Frame.outer

theorem Store.Grows.refl (a : Store) : a.Grows a := ⟨Nat.le_refl _, fun _ _ => rfl⟩
theorem Store.Grows.trans {a b c : Store} (h1 : a.Grows b) (h2 : b.Grows c) : a.Grows c :=
  ⟨Nat.le_trans h1.1 h2.1, fun i hi => (h2.2 i (Nat.lt_of_lt_of_le hi h1.1)).trans (h1.2 i hi)⟩

theorem Store.set_grows (s : Store) (c : Nat) (k : Bytes) (v : Val) : s.Grows (s.set c k v) := by
  unfold Store.set
  cases hc : s.frames[c]? with
  | none => exact Store.Grows.refl _
  | some f =>
    refine ⟨by simp, fun i hi => ?_⟩
    simp only [Array.set!_eq_setIfInBounds, Array.getElem?_setIfInBounds]
    by_cases h : c = i
    · subst h; rw [hc]; simp [hi]
    · simp [h]

theorem Store.ite_grows (s t : Store) (c : Bool) (h : s.Grows t) : s.Grows (if c = true then t else s) := by
  cases c
  · exact Store.Grows.refl _
  · exact h

theorem Store.injectHelpers_grows (c : Nat) (o : Option Nat) : ∀ (l : List String) (s : Store), s.Grows (s.injectHelpers c o l) := by
  intro l
  induction l with
  | nil => intro s; exact Store.Grows.refl _
  | cons h rest ih =>
    intro s
    unfold Store.injectHelpers
    dsimp only
    exact Store.Grows.trans (Store.ite_grows _ _ _ (Store.set_grows s c _ _)) (ih _)

theorem Store.push_grows (s : Store) (f : Frame) : s.Grows { s with frames := s.frames.push f } := by
  refine ⟨by simp, fun i hi => ?_⟩
  simp [Array.getElem?_push, Nat.ne_of_lt hi]

theorem Store.newChild_grows (s : Store) (o : Nat) : s.Grows (s.newChild o).1 := by
  simp only [Store.newChild]
  exact (Store.push_grows s ⟨[], some o⟩).trans (Store.injectHelpers_grows s.frames.size (some o) Gen.helperKeys _)

theorem Store.newChild_lt (s : Store) (o : Nat) : (s.newChild o).2 < (s.newChild o).1.frames.size := by
  have := (Store.injectHelpers_grows s.frames.size (some o) Gen.helperKeys
    { s with frames := s.frames.push ⟨[], some o⟩ }).1
  show (s.newChild o).2 + 1 ≤ _
  simpa [Store.newChild] using this

theorem Store.newRoot_grows (s : Store) (d : List (Bytes × Val)) : s.Grows (s.newRoot d).1 := by
  simp only [Store.newRoot]
  exact (Store.push_grows s ⟨d, none⟩).trans (Store.injectHelpers_grows s.frames.size none Gen.helperKeys _)

theorem Store.foldl_set_grows (dst : Nat) : ∀ (l : List (Bytes × Val)) (s : Store), s.Grows (l.foldl (fun st kv => st.set dst kv.1 kv.2) s) := by
  intro l
  induction l with
  | nil => intro s; exact Store.Grows.refl _
  | cons kv rest ih => intro s; exact (Store.set_grows s dst _ _).trans (ih _)

end Plush
