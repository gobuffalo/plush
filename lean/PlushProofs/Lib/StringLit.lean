import PlushProofs.Lib.LexerSim
/-!
  String literals denote exactly the characters between their quotes (C02, last clause; C18: whatever is
  inside a string is inert — tag delimiters, `#`, newlines, the other kind of quote).
  * back-quoted: `readBString` on  `` ` body ` ``  (body free of `` ` `` and NUL) returns `body`, byte for byte;
  * double-quoted: for ANY content `c` free of NUL and backslash, the spelling `" escQ c "` — every `"` of `c`
    written `\"` — is read back as `c`  (`readString_cur`).  Content with a backslash is left out.
  In both the scanner ends ON the closing quote (the caller's `finish` steps over it).
-/
namespace Plush
namespace LX

variable {a : Array UInt8} {p : Nat} {i : Bool}

def Spells (a : Array UInt8) (k : Nat) (body : Bytes) : Prop := ∀ j (h : j < body.length), a.getD (k + j) 0 = body[j]

theorem Spells.tail {a : Array UInt8} {k : Nat} {x : UInt8} {r : Bytes} (h : Spells a k (x :: r)) : Spells a (k + 1) r := by
  intro j hj
  have := h (j + 1) (by simp; omega)
  simpa [Nat.add_assoc, Nat.add_comm 1 j] using this

theorem Spells.head {a : Array UInt8} {k : Nat} {x : UInt8} {r : Bytes} (h : Spells a k (x :: r)) : a.getD k 0 = x := by
  have := h 0 (by simp)
  simpa using this

theorem spells_self (s : Bytes) : Spells s.toArray 0 s := by
  intro j hj
  simp [Array.getD_eq_getD_getElem?, hj]

theorem Spells.append {a : Array UInt8} {k : Nat} {x y : Bytes} (h : Spells a k (x ++ y)) :
    Spells a k x ∧ Spells a (k + x.length) y := by
  constructor
  · intro j hj
    rw [h j (by simp; omega), List.getElem_append_left hj]
  · intro j hj
    rw [Nat.add_assoc, h (x.length + j) (by simp; omega), List.getElem_append_right (by omega)]
    simp

theorem spells_extract (a : Array UInt8) : ∀ (body : Bytes) (k : Nat), Spells a k body → k + body.length ≤ a.size →
    (a.extract k (k + body.length)).toList = body := by
  intro body k hs hle
  apply List.ext_getElem
  · simp; omega
  · intro i h1 h2
    have := hs i h2
    simp only [Array.toList_extract, List.getElem_take, List.getElem_drop] at *
    rw [← this]
    have hk : k + i < a.size := by omega
    simp [Array.getD_eq_getD_getElem?, hk]

theorem readBString_cur {e : Nat} (h0 : a.getD p 0 ≠ 0) (hlt : p < e) (hcl : a.getD e 0 = 96)
    (hb : ∀ j, p < j → j < e → a.getD j 0 ≠ 96 ∧ a.getD j 0 ≠ 0) :
    (cur a p i).readBString = ((a.extract (p + 1) e).toList, cur a e i) := by
  have hes : e < a.size := getD_ne_zero_lt (by rw [hcl]; decide)
  obtain ⟨n, rfl⟩ : ∃ n, e = p + 1 + n := ⟨e - (p + 1), by omega⟩
  simp only [readBString, readBStringLoop_eq, cur_input, cur_pos]
  rw [scanTo_cur _ (a.size + 2) p n (by omega) h0
    (fun j hj => by have := hb (p + 1 + j) (by omega) (by omega); simpa using this) (Or.inl (by rw [hcl]; rfl)),
    cur_pos, slice_cur (by omega) (by omega)]

theorem skipQuoteEscapes_none (fuel : Nat) (l : LX) (h : (l.ch == 92 && l.peekChar == 34) = false) :
    skipQuoteEscapes (fuel + 1) l = l := by
  rw [skipQuoteEscapes]; simp only [h, Bool.false_eq_true, ↓reduceIte]

theorem skipQuoteEscapes_one (fuel : Nat) (l : LX) (h : (l.ch == 92 && l.peekChar == 34) = true) :
    skipQuoteEscapes (fuel + 1) l = skipQuoteEscapes fuel l.readChar.readChar := by
  rw [skipQuoteEscapes]; simp only [h, ↓reduceIte]

theorem replaceAll_no_quote : ∀ (s : Bytes), (34 : UInt8) ∉ s → replaceAll [92, 34] [34] s = s := by
  intro s
  induction s with
  | nil => intro _; rw [replaceAll]
  | cons c rest ih =>
    intro h
    rw [replaceAll]
    have hp : isPrefixOfB [92, 34] (c :: rest) = false := by
      cases rest with
      | nil => simp [isPrefixOfB]
      | cons d r =>
        apply Bool.eq_false_iff.mpr
        intro hp
        simp only [isPrefixOfB, Bool.and_eq_true, beq_iff_eq, Bool.and_true] at hp
        apply h; rw [hp.2]; simp
    simp only [hp, Bool.false_eq_true, and_false, if_false]
    rw [ih (fun hh => h (List.mem_cons_of_mem _ hh))]

def escQ : Bytes → Bytes
  | [] => []
  | c :: rest => if c = 34 then 92 :: 34 :: escQ rest else c :: escQ rest

theorem replaceAll_escQ : ∀ (c : Bytes), (92 : UInt8) ∉ c → replaceAll [92, 34] [34] (escQ c) = c := by
  intro c
  induction c with
  | nil => intro _; simp [escQ, replaceAll]
  | cons x rest ih =>
    intro h
    have hx : x ≠ 92 := fun hh => h (by rw [hh]; simp)
    have hr : (92 : UInt8) ∉ rest := fun hh => h (List.mem_cons_of_mem _ hh)
    by_cases hq : x = 34
    · subst hq
      simp only [escQ, if_true]
      rw [replaceAll]
      simp [isPrefixOfB, ih hr]
    · simp only [escQ, hq, if_false]
      rw [replaceAll]
      have hp : isPrefixOfB [92, 34] (x :: escQ rest) = false := by
        cases hh : escQ rest with
        | nil => simp [isPrefixOfB]
        | cons d r => simp [isPrefixOfB]; intro h1; exact absurd h1.symm hx
      simp only [hp, Bool.false_eq_true, and_false, if_false]
      rw [ih hr]

theorem length_le_escQ : ∀ (c : Bytes), c.length ≤ (escQ c).length := by
  intro c
  induction c with
  | nil => simp [escQ]
  | cons x r ih => unfold escQ; split <;> simp <;> omega

theorem skipQuoteEscapes_run (a : Array UInt8) :
    ∀ (m : Nat) (fuel : Nat) (l : LX), l.WF → l.input = a → m < fuel →
      (∀ j, j < m → a.getD (l.pos + 2 * j) 0 = 92 ∧ a.getD (l.pos + 2 * j + 1) 0 = 34) →
      ¬ (a.getD (l.pos + 2 * m) 0 = 92 ∧ a.getD (l.pos + 2 * m + 1) 0 = 34) →
      (skipQuoteEscapes fuel l).pos = l.pos + 2 * m ∧ (skipQuoteEscapes fuel l).WF
        ∧ (skipQuoteEscapes fuel l).input = a ∧ (skipQuoteEscapes fuel l).inside = l.inside := by
  intro m fuel l w hin hf hrun hstop
  obtain ⟨a', p, i, rfl⟩ := w.exists_cur
  subst hin
  rw [skipQuoteEscapes_cur (a := a') (i := i) m fuel p hf hrun hstop]
  exact ⟨rfl, cur_wf _ _ _, rfl, rfl⟩

/-- `c''` is `c` without its leading quotes, `q` the position where its spelling starts -/
theorem skipQuoteEscapes_escQ_cur : ∀ (c : Bytes) (fuel p : Nat), c.length < fuel → (∀ x ∈ c, x ≠ 92) →
    Spells a p (escQ c ++ [34]) →
    ∃ c'' q, (∀ x ∈ c'', x ∈ c) ∧ c''.length ≤ c.length ∧ q + (escQ c'').length = p + (escQ c).length
      ∧ Spells a q (escQ c'' ++ [34]) ∧ (c'' = [] ∨ ∃ x r, c'' = x :: r ∧ x ≠ 34)
      ∧ skipQuoteEscapes fuel (cur a p i) = cur a q i := by
  intro c
  induction c with
  | nil =>
    intro fuel p hf _ hs
    obtain ⟨n, rfl⟩ : ∃ n, fuel = n + 1 := ⟨fuel - 1, by simp at hf; omega⟩
    have h0 : a.getD p 0 = 34 := (show Spells a p [34] from hs).head
    rw [skipQuoteEscapes_none _ _ (by rw [cur_ch, h0]; rfl)]
    exact ⟨[], p, fun _ h => h, Nat.le_refl _, rfl, hs, Or.inl rfl, rfl⟩
  | cons x r ih =>
    intro fuel p hf hno hs
    obtain ⟨n, rfl⟩ : ∃ n, fuel = n + 1 := ⟨fuel - 1, by simp at hf; omega⟩
    by_cases hq : x = 34
    · subst hq
      have hs' : Spells a p (92 :: 34 :: (escQ r ++ [34])) := by simpa [escQ] using hs
      rw [skipQuoteEscapes_one _ _ (by rw [cur_ch, cur_peekChar, hs'.head, hs'.tail.head]; rfl), readChar_cur, readChar_cur]
      obtain ⟨c'', q, m1, m2, m3, m4, m5, m6⟩ := ih n (p + 1 + 1) (by simp at hf; omega)
        (fun y hy => hno y (List.mem_cons_of_mem _ hy)) hs'.tail.tail
      exact ⟨c'', q, fun y hy => List.mem_cons_of_mem _ (m1 y hy), Nat.le_succ_of_le m2,
        by rw [m3]; simp [escQ]; omega, m4, m5, m6⟩
    · have hs' : Spells a p (x :: (escQ r ++ [34])) := by simpa [escQ, hq] using hs
      have hx : (x == 92) = false := by simpa using hno x (List.mem_cons_self ..)
      rw [skipQuoteEscapes_none _ _ (by rw [cur_ch, hs'.head, hx]; rfl)]
      exact ⟨x :: r, p, fun _ h => h, Nat.le_refl _, rfl, hs, Or.inr ⟨x, r, rfl, hq⟩, rfl⟩

theorem skipQuoteEscapes_escQ (a : Array UInt8) :
    ∀ (c : Bytes) (fuel : Nat) (l : LX), l.WF → l.input = a → c.length < fuel → (∀ x ∈ c, x ≠ 92) →
      Spells a l.pos (escQ c ++ [34]) →
      ∃ c'', (∀ x ∈ c'', x ∈ c) ∧ c''.length ≤ c.length
        ∧ (skipQuoteEscapes fuel l).pos + (escQ c'').length = l.pos + (escQ c).length
        ∧ Spells a (skipQuoteEscapes fuel l).pos (escQ c'' ++ [34])
        ∧ (c'' = [] ∨ ∃ x r, c'' = x :: r ∧ x ≠ 34)
        ∧ (skipQuoteEscapes fuel l).WF ∧ (skipQuoteEscapes fuel l).input = a
        ∧ (skipQuoteEscapes fuel l).inside = l.inside := by
  intro c fuel l w hin hf hno hs
  obtain ⟨a', p, i, rfl⟩ := w.exists_cur
  subst hin
  obtain ⟨c'', q, m1, m2, m3, m4, m5, e⟩ := skipQuoteEscapes_escQ_cur (a := a') (i := i) c fuel p hf hno hs
  rw [e]
  exact ⟨c'', m1, m2, m3, m4, m5, cur_wf _ _ _, rfl, rfl⟩

/-- `p` need not be the opening quote, only a byte other than NUL: the loop re-enters on a byte of `c` -/
theorem readStringLoop_cur : ∀ (fuel : Nat) (c : Bytes) (p : Nat), a.getD p 0 ≠ 0 → (∀ x ∈ c, x ≠ 0 ∧ x ≠ 92) →
    Spells a (p + 1) (escQ c ++ [34]) → c.length < fuel →
    readStringLoop fuel (cur a p i) = cur a (p + 1 + (escQ c).length) i := by
  intro fuel
  induction fuel with
  | zero => intro c p _ _ _ h; omega
  | succ n ih =>
    intro c p h0 hno hs hf
    have hb : (a.getD p 0 != 0) = true := by simpa using h0
    -- the closing quote lies inside the input, so the inner loop's budget covers `c`
    have hlast : a.getD (p + 1 + (escQ c).length) 0 = 34 := by simpa using hs (escQ c).length (by simp)
    have hsz := getD_ne_zero_lt (a := a) (k := p + 1 + (escQ c).length) (by rw [hlast]; decide)
    have hlen := length_le_escQ c
    obtain ⟨c'', q, m1, m2, m3, m4, m5, e⟩ := skipQuoteEscapes_escQ_cur (i := i) c (a.size + 2) (p + 1) (by omega)
      (fun x hx => (hno x hx).2) hs
    rw [readStringLoop]
    simp only [cur_ch, hb, ↓reduceIte, readChar_cur, cur_input, e]
    rcases m5 with rfl | ⟨x, r, rfl, hxq⟩
    · have hch : a.getD q 0 = 34 := (show Spells a q [34] from m4).head
      simp only [hch, beq_self_eq_true, ↓reduceIte]
      rw [← m3]; rfl
    · have hx := hno x (m1 x (List.mem_cons_self ..))
      have hs2 : Spells a q (x :: (escQ r ++ [34])) := by simpa [escQ, hxq] using m4
      have hne : (a.getD q 0 == 34) = false := by rw [hs2.head]; simpa using hxq
      simp only [hne, Bool.false_eq_true, ↓reduceIte]
      rw [ih r q (by rw [hs2.head]; exact hx.1) (fun y hy => hno y (m1 y (List.mem_cons_of_mem _ hy))) hs2.tail
        (by simp at m2; omega), ← m3]
      simp [escQ, hxq, Nat.add_assoc, Nat.add_comm]

theorem readStringLoop_escaped (a : Array UInt8) :
    ∀ (fuel : Nat) (c : Bytes) (l : LX), l.WF → l.input = a → l.ch ≠ 0 → (∀ x ∈ c, x ≠ 0 ∧ x ≠ 92) →
      Spells a (l.pos + 1) (escQ c ++ [34]) → c.length < fuel →
      (readStringLoop fuel l).pos = l.pos + 1 + (escQ c).length := by
  intro fuel c l w hin hc hno hs hf
  obtain ⟨a', p, i, rfl⟩ := w.exists_cur
  subst hin
  rw [readStringLoop_cur (a := a') (i := i) fuel c p hc hno hs hf]
  rfl

theorem readString_cur (c : Bytes) (h0 : a.getD p 0 ≠ 0) (hno : ∀ x ∈ c, x ≠ 0 ∧ x ≠ 92)
    (hs : Spells a (p + 1) (escQ c ++ [34])) :
    (cur a p i).readString = (c, cur a (p + 1 + (escQ c).length) i) := by
  have hlast : a.getD (p + 1 + (escQ c).length) 0 = 34 := by simpa using hs (escQ c).length (by simp)
  have hsz := getD_ne_zero_lt (a := a) (k := p + 1 + (escQ c).length) (by rw [hlast]; decide)
  have hlen := length_le_escQ c
  have hbody : Spells a (p + 1) (escQ c) := fun j hj => by
    rw [hs j (by simp; omega)]; simp [List.getElem_append_left hj]
  simp only [readString, cur_input, cur_pos]
  rw [readStringLoop_cur (a.size + 2) c p h0 hno hs (by omega), cur_pos, slice_cur (by omega) (by omega),
    spells_extract a (escQ c) (p + 1) hbody (by omega), replaceAll_escQ c (fun h => (hno 92 h).2 rfl)]

theorem escQ_no_quote : ∀ (body : Bytes), (∀ x ∈ body, x ≠ 34) → escQ body = body := by
  intro body
  induction body with
  | nil => intro _; rfl
  | cons x r ih =>
    intro h
    simp only [escQ, h x (by simp), if_false]
    rw [ih (fun y hy => h y (List.mem_cons_of_mem _ hy))]

theorem readString_plain (l : LX) (w : l.WF) (body : Bytes) (hq : l.ch ≠ 0) (hno : ∀ x ∈ body, x ≠ 0 ∧ x ≠ 92 ∧ x ≠ 34)
    (hs : Spells l.input (l.pos + 1) (body ++ [34])) :
    l.readString.1 = body ∧ l.readString.2.pos = l.pos + 1 + body.length := by
  obtain ⟨a, p, i, rfl⟩ := w.exists_cur
  have he : escQ body = body := escQ_no_quote body (fun x hx => (hno x hx).2.2)
  rw [readString_cur body hq (fun x hx => ⟨(hno x hx).1, (hno x hx).2.1⟩) (by rw [he]; exact hs), he]
  exact ⟨rfl, rfl⟩

end LX
end Plush
