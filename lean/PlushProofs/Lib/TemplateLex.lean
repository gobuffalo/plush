import PlushProofs.Lib.LexerTotal
import PlushProofs.Lib.TokenAt
/-!
  Templates as byte strings.  Literal text (`Plain`, `PlainL`: no NUL, no `<%`) is a `TextRegion` of the input that spells
  it, and `strings.Replace` finds no `\<%` in it to undo.  One `NextToken`, given as an equation between canonical
  states, moves the stream `tokenAt k` / `stateAfter k` on (`stream_step`).
-/
namespace Plush
namespace LX

structure Plain (a : Array UInt8) : Prop where
  nonul : ∀ i, i < a.size → a.getD i 0 ≠ 0
  notag : ∀ i, ¬ (a.getD i 0 = 60 ∧ a.getD (i + 1) 0 = 37)

/-- `Plain` for a piece of a template given as a list of bytes -/
structure PlainL (t : Bytes) : Prop where
  nonul : ∀ i, i < t.length → t.getD i 0 ≠ 0
  notag : ∀ i, ¬ (t.getD i 0 = 60 ∧ t.getD (i + 1) 0 = 37)

theorem getD_ge (x : Bytes) (i : Nat) (h : x.length ≤ i) : x.getD i 0 = 0 := by
  simp [List.getD_eq_getElem?_getD, List.getElem?_eq_none h]

theorem isPrefix_esc_false (s : Bytes) (h : ∀ i, ¬ (s.getD i 0 = 60 ∧ s.getD (i + 1) 0 = 37)) :
    isPrefixOfB [92, 60, 37] s = false := by
  match s with
  | [] => rfl
  | [_] => simp [isPrefixOfB]
  | [_, _] => simp [isPrefixOfB]
  | c0 :: c1 :: c2 :: rest =>
    apply Bool.eq_false_iff.mpr
    intro hp
    simp only [isPrefixOfB, Bool.and_eq_true, beq_iff_eq, Bool.and_true] at hp
    apply h 1
    simp [← hp.2.1, ← hp.2.2]

theorem replaceAll_plain : ∀ (s : Bytes), (∀ i, ¬ (s.getD i 0 = 60 ∧ s.getD (i + 1) 0 = 37)) →
    replaceAll [92, 60, 37] [60, 37] s = s := by
  intro s
  induction s with
  | nil => intro _; rw [replaceAll]
  | cons c rest ih =>
    intro h
    rw [replaceAll]
    have hp := isPrefix_esc_false (c :: rest) h
    simp only [hp, Bool.false_eq_true, and_false, if_false]
    rw [ih]
    intro i hi
    apply h (i + 1)
    simpa using hi

theorem plain_list (a : Array UInt8) (hp : Plain a) : ∀ i, ¬ (a.toList.getD i 0 = 60 ∧ a.toList.getD (i + 1) 0 = 37) := by
  intro i h
  apply hp.notag i
  simpa [Array.getD_eq_getD_getElem?, List.getD_eq_getElem?_getD] using h

theorem Plain.region {a : Array UInt8} (hp : Plain a) : TextRegion a 0 a.size :=
  fun i _ hi => ⟨hp.nonul i hi, hp.notag i, fun h => hp.notag (i + 1) ⟨h.2.1, h.2.2⟩⟩

/-- `h37`, `hb`: what follows the text must not complete a `<%` or a `\<%` begun inside it -/
theorem textRegion_of_plainL {a : Array UInt8} {p : Nat} {t : Bytes} (ht : PlainL t) (hs : Spells a p t)
    (h37 : a.getD (p + t.length) 0 ≠ 37) (hb : t.getD (t.length - 1) 0 ≠ 92 ∨ a.getD (p + t.length) 0 ≠ 60) :
    TextRegion a p (p + t.length) := by
  have g : ∀ j, j < t.length → a.getD (p + j) 0 = t.getD j 0 := fun j hj => by
    rw [hs j hj]; simp [List.getD_eq_getElem?_getD, hj]
  intro i h1 h2
  obtain ⟨j, rfl⟩ : ∃ j, i = p + j := ⟨i - p, by omega⟩
  have hj : j < t.length := by omega
  rw [Nat.add_assoc, Nat.add_assoc, g j hj]
  refine ⟨ht.nonul j hj, fun h => ?_, fun h => ?_⟩
  · by_cases h' : j + 1 < t.length
    · exact ht.notag j ⟨h.1, g (j + 1) h' ▸ h.2⟩
    · exact h37 ((show j + 1 = t.length by omega) ▸ h.2)
  · by_cases h' : j + 2 < t.length
    · exact ht.notag (j + 1) ⟨g (j + 1) (by omega) ▸ h.2.1, g (j + 2) h' ▸ h.2.2⟩
    · by_cases h'' : j + 1 < t.length
      · exact h37 ((show j + 2 = t.length by omega) ▸ h.2.2)
      · rcases hb with hb | hb
        · exact hb ((show j = t.length - 1 by omega) ▸ h.1)
        · exact hb ((show j + 1 = t.length by omega) ▸ h.2.1)

end LX

open LX

theorem stream_start (a : Array UInt8) : stateAfter 0 (LX.new a) = cur a 0 false := new_eq_cur a

theorem stream_step {l0 : LX} {k p q : Nat} {i j : Bool} {a : Array UInt8} {t : Token}
    (r : stateAfter k l0 = cur a p i) (h : (cur a p i).nextToken = (t, cur a q j)) :
    tokenAt k l0 = t ∧ stateAfter (k + 1) l0 = cur a q j := by
  rw [tokenAt, stateAfter_succ', r, h]; exact ⟨rfl, rfl⟩

theorem stream_eof {l0 : LX} {k p : Nat} {i : Bool} {a : Array UInt8} (r : stateAfter k l0 = cur a p i) (h : a.size ≤ p) :
    ∀ n, tokenAt (n + k) l0 = { type := .EOF, lit := [], line := (cur a p i).line } := by
  intro n
  rw [Nat.add_comm, tokenAt_add, r]
  exact (done_forever n _ (cur_wf a p i) (Or.inr h)).2.2

end Plush
