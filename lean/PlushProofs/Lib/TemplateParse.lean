import PlushProofs.Lib.ParserTotalProof
import PlushProofs.Lib.ParserSteps
/-!
  What `programLoop` does with the token shapes a template is made of — a text token, `<%= leaf`, `<% leaf`, `%>`, the
  end — each as one turn of the loop at any cursor, and the reduction of `parseBytes` to the loop on the token stream.
  The parse of a concrete template is then one step per token.
-/
namespace Plush
namespace P

/-- the next token ends the expression and is left where it is: it does not bind (`loop_stops`), `skipSemicolon` does not
    take it, and `parseIdentifier` does not see an assignment -/
def ends (t : TT) : Bool := precOf t == Gen.LOWEST && t != .SEMICOLON && t != .ASSIGN

/-- token types whose prefix function answers on the spot, without moving the cursor -/
def IsLeaf (t : TT) : Prop := t = .HTML ∨ t = .STRING ∨ t = .IDENT ∨ t = .E_END

/-- what the prefix function of a leaf token answers; for `%>` parser.go registers `func() ast.Expression { return nil }` (`returnNil`) -/
def leaf (c : Token) : Option Expr :=
  match c.type with
  | .HTML => some (.html c c.lit)
  | .STRING => some (.str c c.lit)
  | .IDENT => some (.ident { tok := c, segs := splitOn1 46 c.lit })
  | _ => none

theorem runPrefix_html (f : Nat) (s : PS) :
    runPrefix (f+1) .parseHTMLLiteral s = .ok (some (.html (tokAt s s.pos) (tokAt s s.pos).lit), s) := rfl

theorem runPrefix_nil (f : Nat) (s : PS) : runPrefix (f+1) .returnNil s = .ok (none, s) := rfl

theorem expr_leaf (f : Nat) (s : PS) (Q : Option Expr → PS → Prop) (hty : IsLeaf (tokAt s s.pos).type)
    (hend : ends (tokAt s (s.pos + 1)).type = true) (h : Q (leaf (tokAt s s.pos)) s) :
    OK (parseExpression (f+2) Gen.LOWEST) s Q := by
  simp only [ends, Bool.and_eq_true, beq_iff_eq, bne_iff_ne, ne_eq] at hend
  have stop := loop_stops f Gen.LOWEST (leaf (tokAt s s.pos)) s Q (by rw [hend.1.1]; exact Nat.le_refl _) h
  unfold leaf at stop
  -- each leaf type: its registered prefix function, and what that returns
  rcases hty with ht | ht | ht | ht
  · rw [ht] at stop
    exact expr_step _ _ .parseHTMLLiteral s Q (by rw [ht]; rfl) ((OK_of_run (runPrefix_html f s) _).mpr stop)
  · rw [ht] at stop
    exact atom_step f _ _ s Q (by simp only [atomOf, ht]) hend.2 stop
  · rw [ht] at stop
    exact atom_step f _ _ s Q (by simp only [atomOf, ht]) hend.2 stop
  · rw [ht] at stop
    exact expr_step _ _ .returnNil s Q (by rw [ht]; rfl) ((OK_of_run (runPrefix_nil f s) _).mpr stop)

theorem stmt_leaf (f : Nat) (s : PS) (Q : Option Stmt → PS → Prop) (hty : IsLeaf (tokAt s s.pos).type)
    (hend : ends (tokAt s (s.pos + 1)).type = true)
    (h : Q (some (.es (tokAt s s.pos) (leaf (tokAt s s.pos)))) s) : OK (parseStatement (f+4)) s Q := by
  have hsc : ((tokAt s (s.pos + 1)).type == TT.SEMICOLON) = false := by
    simp only [ends, Bool.and_eq_true, bne_iff_ne, ne_eq] at hend; simpa using hend.1.2
  have body : OK (parseExpressionStatement (f+3) >>= fun st => pure (some st)) s Q := by
    rw [parseExpressionStatement_eq]
    simp only [OK_bind, OK_cur]
    apply expr_leaf f s _ hty hend
    simp only [OK_skipSemicolon, hsc, Bool.false_eq_true, if_false, OK_pure]
    exact h
  rw [parseStatement_eq]
  -- none of the four leaf types has an arm of its own in `parseStatement`
  rcases hty with ht | ht | ht | ht
  all_goals
    simp only [OK_bind, OK_cur, ht]
    simpa only [OK_bind] using body

theorem stmt_out (f : Nat) (s : PS) (Q : Option Stmt → PS → Prop) (h0 : (tokAt s s.pos).type = .E_START)
    (hty : IsLeaf (tokAt s (s.pos + 1)).type) (hend : ends (tokAt s (s.pos + 2)).type = true)
    (h : Q (some (.ret true (tokAt s s.pos) (leaf (tokAt s (s.pos + 1))))) (s.at (s.pos + 1))) :
    OK (parseStatement (f+4)) s Q := by
  have hsc : ((tokAt s (s.pos + 2)).type == TT.SEMICOLON) = false := by
    simp only [ends, Bool.and_eq_true, bne_iff_ne, ne_eq] at hend; simpa using hend.1.2
  rw [parseStatement_eq]
  simp only [OK_bind, OK_cur, h0, parseReturnStatement_eq, OK_nextTok]
  apply expr_leaf f (s.at (s.pos + 1)) _ hty hend
  simp only [OK_skipSemicolon, at_pos, tokAt_at, hsc, Bool.false_eq_true, if_false, OK_pure]
  exact h

variable {n f : Nat} {acc : List Stmt} {s : PS} {Q : List Stmt → PS → Prop}

theorem loop_eof (i : Nat) {c : Token} (h0 : tokAt s i = c) (hc : c.type = .EOF) (h : Q acc (s.at i)) :
    OK (programLoop (n+1) f acc) (s.at i) Q := by
  subst h0
  unfold programLoop
  simpa only [OK_bind, OK_curIs, at_pos, tokAt_at, hc, beq_self_eq_true, OK_ite, Bool.not_true, Bool.false_eq_true, if_false, OK_pure] using h

theorem loop_text (i : Nat) {c c1 : Token} (h0 : tokAt s i = c) (h1 : tokAt s (i + 1) = c1) (hc : c.type = .HTML)
    (he : ends c1.type = true) (h : OK (programLoop n (f+5) (acc ++ [.es c (some (.html c c.lit))])) (s.at (i + 1)) Q) :
    OK (programLoop (n+1) (f+5) acc) (s.at i) Q := by
  subst h0 h1
  unfold programLoop
  simp only [OK_bind, OK_curIs, at_pos, tokAt_at, hc, OK_ite]
  apply stmt_leaf (f+1) (s.at i) _ (Or.inl hc) he
  simp only [leaf, at_pos, tokAt_at, hc, OK_nextTok]
  exact h

/-- `%>` on its own is an expression statement without expression; it prints blank, so `parseProgram` drops it -/
theorem loop_close (i : Nat) {c c1 : Token} (h0 : tokAt s i = c) (h1 : tokAt s (i + 1) = c1) (hc : c.type = .E_END)
    (he : ends c1.type = true) (h : OK (programLoop n (f+5) acc) (s.at (i + 1)) Q) :
    OK (programLoop (n+1) (f+5) acc) (s.at i) Q := by
  subst h0 h1
  unfold programLoop
  simp only [OK_bind, OK_curIs, at_pos, tokAt_at, hc, OK_ite]
  apply stmt_leaf (f+1) (s.at i) _ (Or.inr (Or.inr (Or.inr hc))) he
  have hb : nonBlank (pStmt (.es (tokAt s i) none)) = false := rfl
  simp only [leaf, at_pos, tokAt_at, hc, OK_nextTok, hb, Bool.false_eq_true, if_false]
  exact h

theorem loop_out (i : Nat) {c c1 c2 : Token} (h0 : tokAt s i = c) (h1 : tokAt s (i + 1) = c1) (h2 : tokAt s (i + 2) = c2)
    (hc : c.type = .E_START) (hty : IsLeaf c1.type) (he : ends c2.type = true)
    (h : OK (programLoop n (f+5) (acc ++ [.ret true c (leaf c1)])) (s.at (i + 2)) Q) :
    OK (programLoop (n+1) (f+5) acc) (s.at i) Q := by
  subst h0 h1 h2
  unfold programLoop
  simp only [OK_bind, OK_curIs, at_pos, tokAt_at, hc, OK_ite]
  apply stmt_out (f+1) (s.at i) _ hc hty he
  have hnb : nonBlank (pStmt (.ret true (tokAt s i) (leaf (tokAt s (i + 1))))) = true := by simp [pStmt, nonBlank]
  simp only [at_pos, tokAt_at, hnb, OK_nextTok, if_true]
  exact h

/-- `hnb`: `parseProgram` keeps a statement only if `strings.TrimSpace(stmt.String()) != ""` -/
theorem loop_code (i : Nat) {c c1 c2 : Token} (h0 : tokAt s i = c) (h1 : tokAt s (i + 1) = c1) (h2 : tokAt s (i + 2) = c2)
    (hc : c.type = .S_START) (hty : c1.type = .STRING ∨ c1.type = .IDENT) (he : ends c2.type = true)
    (hnb : nonBlank (optStr (leaf c1)) = true)
    (h : OK (programLoop n (f+5) (acc ++ [.es c1 (leaf c1)])) (s.at (i + 2)) Q) :
    OK (programLoop (n+1) (f+5) acc) (s.at i) Q := by
  subst h0 h1 h2
  unfold programLoop
  simp only [OK_bind, OK_curIs, at_pos, tokAt_at, hc, OK_ite, parseStatement_eq, OK_cur, OK_nextTok]
  apply stmt_leaf f (s.at (i + 1)) _ (hty.elim (fun t => Or.inr (Or.inl t)) (fun t => Or.inr (Or.inr (Or.inl t)))) he
  simp only [tokAt_at, at_pos]
  rcases hty with t | t
  all_goals
    simp only [leaf, t] at hnb h ⊢
    simp only [pStmt, hnb, if_true]
    exact h

end P

/-- `parseBytes` runs `programLoop` for `toks.size + 4` turns, where `lexAll` gives `src.length + 2` tokens, with fuel
    `parseFuel toks.size = 64 * toks.size + 32`: 6 turns and fuel 5 (the call depth of a tag around a leaf) are there
    whatever `src` is. -/
theorem parseBytes_of_loop (src : Bytes) (ss : List Stmt)
    (h : ∀ (s : PS) (n f : Nat), s.errs = #[] → (∀ i, P.tokAt s i = tokenAt i (LX.new src.toArray)) →
      P.OK (P.programLoop (n + 6) (f + 5) []) (s.at 0) (fun r s' => r = ss ∧ s'.errs = #[])) :
    parseBytes src = .ok ({ stmts := ss }, #[]) := by
  have hn : (lexAll src.toArray).size + 4 = src.length + 6 := by rw [lexAll, List.size_toArray, lexN_length, List.size_toArray]
  have hf : parseFuel (lexAll src.toArray).size = 64 * (lexAll src.toArray).size + 27 + 5 := rfl
  obtain ⟨ss', s', e, rfl, he⟩ := P.parseToks_of_OK (toks := lexAll src.toArray)
    (by rw [hn, hf]; exact h (P.start (lexAll src.toArray)) src.length (64 * (lexAll src.toArray).size + 27) rfl (P.tokAt_start _))
  rw [parseBytes, e, he]

end Plush
