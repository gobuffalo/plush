import PlushProofs.Lib.TemplateLex
import PlushProofs.Lib.TemplateParse
/-!
  Five template shapes through lexer and parser: tag-free text; `<%="c"%>`; `<%"c"%>`; text `<%="c"%>` text; `<%=name%>`.
  Each token stream is a walk with `stream_step` over the source as `Spells` describes it, each parse one `loop_*` step per
  token.  (The parses of the first and the fourth shape, and all renders, stand under their property names in
  `Props/C02.lean`, `Props/C01.lean`.)
-/
namespace Plush
namespace LX

/-- `<%="…"%>`, the string spelling `c` -/
def outTagSrc (c : Bytes) : Bytes := [60, 37, 61, 34] ++ ((escQ c ++ [34]) ++ [37, 62])

/-- `<%"…"%>` -/
def codeTagSrc (c : Bytes) : Bytes := [60, 37, 34] ++ ((escQ c ++ [34]) ++ [37, 62])

def ttSrc (pre c post : Bytes) : Bytes := pre ++ (outTagSrc c ++ post)

/-- `<%=name%>` -/
def identTagSrc (name : Bytes) : Bytes := [60, 37, 61] ++ (name ++ [37, 62])

end LX

open LX

theorem stream_outTag {l0 : LX} {k p : Nat} {i : Bool} {a : Array UInt8} (c : Bytes) (hno : ∀ x ∈ c, x ≠ 0 ∧ x ≠ 92)
    (r : stateAfter k l0 = cur a p i) (hs : Spells a p (outTagSrc c)) :
    ∃ l1 l2 l3,
      tokenAt k l0 = { type := .E_START, lit := b "<%=", line := l1 } ∧
      tokenAt (k + 1) l0 = { type := .STRING, lit := c, line := l2 } ∧
      tokenAt (k + 2) l0 = { type := .E_END, lit := b "%>", line := l3 } ∧
      stateAfter (k + 3) l0 = cur a (p + (outTagSrc c).length) false := by
  obtain ⟨ho, hs⟩ := hs.append
  obtain ⟨hb, hc⟩ := hs.append
  have e1 : p + [60, 37, 61, (34 : UInt8)].length + (escQ c ++ [34]).length = p + 3 + 1 + (escQ c).length + 1 := by
    simp only [List.length_cons, List.length_nil, List.length_append]; omega
  have e2 : p + (outTagSrc c).length = p + 3 + 1 + (escQ c).length + 1 + 2 := by
    simp only [outTagSrc, List.length_cons, List.length_nil, List.length_append]; omega
  rw [e1] at hc
  rw [e2]
  have h34 : a.getD (p + 3) 0 = 34 := ho.tail.tail.tail.head
  have hb : Spells a (p + 3 + 1) (escQ c ++ [34]) := hb
  obtain ⟨t1, r1⟩ := stream_step r ((nextToken_open ho.head ho.tail.head).trans (tok_estart ho.head ho.tail.head ho.tail.tail.head))
  obtain ⟨t2, r2⟩ := stream_step r1 ((nextToken_start (cur_atStart h34 (by decide))).trans (tok_string h34 c hno hb))
  obtain ⟨t3, r3⟩ := stream_step r2 ((nextToken_start (cur_atStart hc.head (by decide))).trans (tok_eend hc.head hc.tail.head))
  exact ⟨_, _, _, t1, t2, t3, r3⟩

theorem tokens_plain (a : Array UInt8) (hp : Plain a) (hne : 0 < a.size) :
    ∃ ln, tokenAt 0 (LX.new a) = { type := .HTML, lit := a.toList, line := ln } ∧
      ∀ k, tokenAt (k + 1) (LX.new a) = { type := .EOF, lit := [], line := ln } := by
  obtain ⟨t0, r1⟩ := stream_step (stream_start a)
    (nextToken_text a.size false hne (Nat.le_refl _) hp.region
      (fun _ => readHTMLLoop_at_nul _ _ (getD_zero_of_ge a _ (Nat.le_refl _))))
  rw [show (a.extract 0 a.size).toList = a.toList by simp, replaceAll_plain _ (plain_list a hp)] at t0
  exact ⟨_, t0, stream_eof r1 (Nat.le_refl _)⟩

/-- `<%="c"%>`: E_START, STRING `c`, E_END, then EOF for ever -/
theorem tokens_outTag (c : Bytes) (hno : ∀ x ∈ c, x ≠ 0 ∧ x ≠ 92) :
    ∃ l0 l1 l2 l3,
      tokenAt 0 (LX.new (outTagSrc c).toArray) = { type := .E_START, lit := b "<%=", line := l0 } ∧
      tokenAt 1 (LX.new (outTagSrc c).toArray) = { type := .STRING, lit := c, line := l1 } ∧
      tokenAt 2 (LX.new (outTagSrc c).toArray) = { type := .E_END, lit := b "%>", line := l2 } ∧
      ∀ k, tokenAt (k + 3) (LX.new (outTagSrc c).toArray) = { type := .EOF, lit := [], line := l3 } := by
  obtain ⟨_, _, _, t0, t1, t2, r⟩ := stream_outTag c hno (stream_start _) (spells_self (outTagSrc c))
  exact ⟨_, _, _, _, t0, t1, t2, stream_eof r (by simp)⟩

theorem tokens_codeTag (c : Bytes) (hno : ∀ x ∈ c, x ≠ 0 ∧ x ≠ 92) :
    ∃ l0 l1 l2 l3,
      tokenAt 0 (LX.new (codeTagSrc c).toArray) = { type := .S_START, lit := b "<%", line := l0 } ∧
      tokenAt 1 (LX.new (codeTagSrc c).toArray) = { type := .STRING, lit := c, line := l1 } ∧
      tokenAt 2 (LX.new (codeTagSrc c).toArray) = { type := .E_END, lit := b "%>", line := l2 } ∧
      ∀ k, tokenAt (k + 3) (LX.new (codeTagSrc c).toArray) = { type := .EOF, lit := [], line := l3 } := by
  have hs := spells_self (codeTagSrc c)
  have hsz : (codeTagSrc c).toArray.size = 2 + 1 + (escQ c).length + 1 + 2 := by simp [codeTagSrc]; omega
  generalize (codeTagSrc c).toArray = a at *
  obtain ⟨ho, hs⟩ := hs.append
  obtain ⟨hb, hc⟩ := hs.append
  have hc : Spells a (2 + 1 + (escQ c).length + 1) [37, 62] := by
    rw [show 2 + 1 + (escQ c).length + 1 = 0 + [60, 37, (34 : UInt8)].length + (escQ c ++ [34]).length by simp; omega]; exact hc
  have h34 : a.getD 2 0 = 34 := ho.tail.tail.head
  have hb : Spells a (2 + 1) (escQ c ++ [34]) := hb
  have h34' : a.getD (0 + 2) 0 = 34 := h34
  obtain ⟨t0, r1⟩ := stream_step (stream_start a)
    ((nextToken_open (p := 0) ho.head ho.tail.head).trans
      (tok_sstart ho.head ho.tail.head (by rw [h34']; decide) (by rw [h34']; decide)))
  obtain ⟨t1, r2⟩ := stream_step r1 ((nextToken_start (cur_atStart h34 (by decide))).trans (tok_string h34 c hno hb))
  obtain ⟨t2, r3⟩ := stream_step r2 ((nextToken_start (cur_atStart hc.head (by decide))).trans (tok_eend hc.head hc.tail.head))
  exact ⟨_, _, _, _, t0, t1, t2, stream_eof r3 (Nat.le_of_eq hsz)⟩

theorem tokens_identTag (name : Bytes) (hn : LowerName name) (hkw : lookupIdent name = .IDENT) :
    ∃ l0 l1 l2 l3,
      tokenAt 0 (LX.new (identTagSrc name).toArray) = { type := .E_START, lit := b "<%=", line := l0 } ∧
      tokenAt 1 (LX.new (identTagSrc name).toArray) = { type := .IDENT, lit := name, line := l1 } ∧
      tokenAt 2 (LX.new (identTagSrc name).toArray) = { type := .E_END, lit := b "%>", line := l2 } ∧
      ∀ k, tokenAt (k + 3) (LX.new (identTagSrc name).toArray) = { type := .EOF, lit := [], line := l3 } := by
  have hs := spells_self (identTagSrc name)
  have hsz : (identTagSrc name).toArray.size = 3 + name.length + 2 := by simp [identTagSrc]; omega
  generalize (identTagSrc name).toArray = a at *
  obtain ⟨ho, hs⟩ := hs.append
  obtain ⟨hb, hc⟩ := hs.append
  obtain ⟨t0, r1⟩ := stream_step (stream_start a)
    ((nextToken_open (p := 0) ho.head ho.tail.head).trans (tok_estart ho.head ho.tail.head ho.tail.tail.head))
  have hb : Spells a 3 name := hb
  have h37 : a.getD (3 + name.length) 0 = 37 := hc.head
  obtain ⟨t1, r2⟩ := stream_step r1
    ((nextToken_start (lower_atStart (hn.first hb))).trans (tok_ident name hn hb (by rw [h37]; decide)))
  rw [hkw] at t1
  obtain ⟨t2, r3⟩ := stream_step r2 ((nextToken_start (cur_atStart h37 (by decide))).trans (tok_eend h37 hc.tail.head))
  exact ⟨_, _, _, _, t0, t1, t2, stream_eof r3 (Nat.le_of_eq hsz)⟩

/-- `pre <%="c"%> post`: HTML `pre`, the three tokens of the tag, HTML `post`, then EOF for ever -/
theorem tokens_tt (pre c post : Bytes) (hp : PlainL pre) (hpne : pre ≠ []) (hlast : pre.getD (pre.length - 1) 0 ≠ 92)
    (hq : PlainL post) (hqne : post ≠ []) (hno : ∀ x ∈ c, x ≠ 0 ∧ x ≠ 92) :
    ∃ l0 l1 l2 l3 l4 l5,
      tokenAt 0 (LX.new (ttSrc pre c post).toArray) = { type := .HTML, lit := pre, line := l0 } ∧
      tokenAt 1 (LX.new (ttSrc pre c post).toArray) = { type := .E_START, lit := b "<%=", line := l1 } ∧
      tokenAt 2 (LX.new (ttSrc pre c post).toArray) = { type := .STRING, lit := c, line := l2 } ∧
      tokenAt 3 (LX.new (ttSrc pre c post).toArray) = { type := .E_END, lit := b "%>", line := l3 } ∧
      tokenAt 4 (LX.new (ttSrc pre c post).toArray) = { type := .HTML, lit := post, line := l4 } ∧
      ∀ k, tokenAt (k + 5) (LX.new (ttSrc pre c post).toArray) = { type := .EOF, lit := [], line := l5 } := by
  have hP : 0 < pre.length := List.length_pos_iff.mpr hpne
  have hQ : 0 < post.length := List.length_pos_iff.mpr hqne
  have hs := spells_self (ttSrc pre c post)
  have hsz : (ttSrc pre c post).toArray.size = pre.length + (outTagSrc c).length + post.length := by simp [ttSrc]; omega
  generalize (ttSrc pre c post).toArray = a at *
  obtain ⟨hpre, hs⟩ := hs.append
  obtain ⟨htag, hpost⟩ := hs.append
  rw [Nat.zero_add] at htag hpost
  have h60 : a.getD pre.length 0 = 60 := htag.append.1.head
  have h37 : a.getD (pre.length + 1) 0 = 37 := htag.append.1.tail.head
  have z : a.getD (pre.length + (outTagSrc c).length + post.length) 0 = 0 := getD_zero_of_ge a _ (Nat.le_of_eq hsz)
  -- the text in front: the scanner stops ON the opener, already in code mode
  have rpre := textRegion_of_plainL hp hpre (by rw [Nat.zero_add, h60]; decide) (Or.inl hlast)
  have xpre := spells_extract a pre 0 hpre (by omega)
  rw [Nat.zero_add] at rpre xpre
  obtain ⟨t0, r1⟩ := stream_step (stream_start a)
    (nextToken_text pre.length true hP (by omega) rpre (fun _ => readHTMLLoop_at_tag _ _ h60 h37))
  rw [xpre, replaceAll_plain pre hp.notag] at t0
  obtain ⟨_, _, _, t1, t2, t3, r4⟩ := stream_outTag c hno r1 htag
  obtain ⟨t4, r5⟩ := stream_step r4
    (nextToken_text (pre.length + (outTagSrc c).length + post.length) false (by omega) (by omega)
      (textRegion_of_plainL hq hpost (by rw [z]; decide) (Or.inr (by rw [z]; decide)))
      (fun _ => readHTMLLoop_at_nul _ _ z))
  rw [spells_extract a post _ hpost (by omega), replaceAll_plain post hq.notag] at t4
  exact ⟨_, _, _, _, _, _, t0, t1, t2, t3, t4, stream_eof r5 (Nat.le_of_eq hsz)⟩

namespace P

/-- `<%="c"%>` parses to one output statement holding the literal, without a syntax error -/
theorem parse_outTag (c : Bytes) (hno : ∀ x ∈ c, x ≠ 0 ∧ x ≠ 92) :
    ∃ t0 t1 : Token, t1.lit = c ∧
      parseBytes (outTagSrc c) = .ok ({ stmts := [.ret true t0 (some (.str t1 c))] }, #[]) := by
  obtain ⟨l0, l1, l2, l3, h0, h1, h2, hk⟩ := tokens_outTag c hno
  refine ⟨{ type := .E_START, lit := b "<%=", line := l0 }, { type := .STRING, lit := c, line := l1 }, rfl,
    parseBytes_of_loop _ _ fun s n f herr htok => ?_⟩
  apply loop_out 0 ((htok 0).trans h0) ((htok 1).trans h1) ((htok 2).trans h2) rfl (Or.inr (Or.inl rfl)) rfl
  apply loop_close 2 ((htok 2).trans h2) ((htok 3).trans (hk 0)) rfl rfl
  exact loop_eof 3 ((htok 3).trans (hk 0)) rfl ⟨rfl, herr⟩

theorem parse_codeTag (c : Bytes) (hno : ∀ x ∈ c, x ≠ 0 ∧ x ≠ 92) :
    ∃ t1 : Token, t1.lit = c ∧
      parseBytes (codeTagSrc c) = .ok ({ stmts := [.es t1 (some (.str t1 c))] }, #[]) := by
  obtain ⟨l0, l1, l2, l3, h0, h1, h2, hk⟩ := tokens_codeTag c hno
  refine ⟨{ type := .STRING, lit := c, line := l1 }, rfl, parseBytes_of_loop _ _ fun s n f herr htok => ?_⟩
  apply loop_code 0 ((htok 0).trans h0) ((htok 1).trans h1) ((htok 2).trans h2) rfl (Or.inl rfl) rfl
    (by simp [leaf, optStr, pExpr, nonBlank])
  apply loop_close 2 ((htok 2).trans h2) ((htok 3).trans (hk 0)) rfl rfl
  exact loop_eof 3 ((htok 3).trans (hk 0)) rfl ⟨rfl, herr⟩

theorem lower_no_dot (name : Bytes) (hn : LowerName name) : (46 : UInt8) ∉ name := by
  intro h; have := (hn.2 46 h).1; exact absurd this (by decide)

theorem parse_identTag (name : Bytes) (hn : LowerName name) (hkw : lookupIdent name = .IDENT) :
    ∃ t0 t1 : Token,
      parseBytes (identTagSrc name) = .ok ({ stmts := [.ret true t0 (some (.ident { tok := t1, segs := [name] }))] }, #[]) := by
  obtain ⟨l0, l1, l2, l3, h0, h1, h2, hk⟩ := tokens_identTag name hn hkw
  refine ⟨{ type := .E_START, lit := b "<%=", line := l0 }, { type := .IDENT, lit := name, line := l1 },
    parseBytes_of_loop _ _ fun s n f herr htok => ?_⟩
  apply loop_out 0 ((htok 0).trans h0) ((htok 1).trans h1) ((htok 2).trans h2) rfl (Or.inr (Or.inr (Or.inl rfl))) rfl
  apply loop_close 2 ((htok 2).trans h2) ((htok 3).trans (hk 0)) rfl rfl
  refine loop_eof 3 ((htok 3).trans (hk 0)) rfl ⟨?_, herr⟩
  simp only [leaf, splitOn1_no_sep name (lower_no_dot name hn), List.nil_append]

end P
end Plush
