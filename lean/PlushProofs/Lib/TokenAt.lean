import PlushProofs.Lib.StringLit
/-!
  What `NextToken` returns on given bytes, each result as one equation between states `cur a p i`.

  Literal text: in front of a `TextRegion` (no NUL, no `<%`, no `\<%`) `NextToken` returns ONE HTML token holding the
  region (`nextToken_text`).

  The branch table of `nextInsideToken` at given bytes (`tok_…`), entered from `NextToken` by `nextToken_start` (code
  mode, on the first byte of a token) or `nextToken_open` (either mode, on `<%`).

  The same results field by field for any well-formed scanner state (`nextToken_string`, … , `nextToken_ident`).
-/
namespace Plush
namespace LX

variable {a : Array UInt8} {p : Nat} {i : Bool}

def TextRegion (a : Array UInt8) (p e : Nat) : Prop :=
  ∀ i, p ≤ i → i < e → a.getD i 0 ≠ 0 ∧ ¬ (a.getD i 0 = 60 ∧ a.getD (i + 1) 0 = 37)
    ∧ ¬ (a.getD i 0 = 92 ∧ a.getD (i + 1) 0 = 60 ∧ a.getD (i + 2) 0 = 37)

theorem readHTMLLoop_region (position : Nat) : ∀ (n fuel p : Nat), TextRegion a p (p + n) →
    readHTMLLoop position (fuel + n) (cur a p i) = readHTMLLoop position fuel (cur a (p + n) i) := by
  intro n
  induction n with
  | zero => intro fuel p _; rfl
  | succ n ih =>
    intro fuel p hr
    obtain ⟨h0, ht, he⟩ := hr p (Nat.le_refl _) (by omega)
    have ht' : (a.getD p 0 == 60 && a.getD (p + 1) 0 == 37) = false := by simpa using ht
    have he' : (a.getD p 0 == 92 && a.getD (p + 1) 0 == 60 && a.getD (p + 2) 0 == 37) = false := by
      simpa [and_assoc] using he
    rw [show fuel + (n + 1) = fuel + n + 1 from rfl, readHTMLLoop]
    simp only [cur_ch, cur_peekChar, cur_peekCharAt, bne_iff_ne, ne_eq, h0, not_false_eq_true, ht', he',
      Bool.false_eq_true, ↓reduceIte, readChar_cur]
    rw [ih fuel (p + 1) (fun k h1 h2 => hr k (by omega) (by omega)), Nat.add_assoc, Nat.add_comm 1 n]

theorem readHTMLLoop_at_tag (position fuel : Nat) (h60 : a.getD p 0 = 60) (h37 : a.getD (p + 1) 0 = 37) :
    readHTMLLoop position (fuel + 1) (cur a p i) = (none, cur a p true) := by
  have he : (a.getD p 0 == 92 && a.getD (p + 1) 0 == 60 && a.getD (p + 2) 0 == 37) = false := by rw [h60]; rfl
  have ht : (a.getD p 0 == 60 && a.getD (p + 1) 0 == 37) = true := by rw [h60, h37]; rfl
  have h0 : (a.getD p 0 != 0) = true := by rw [h60]; rfl
  rw [readHTMLLoop]
  simp only [cur_ch, cur_peekChar, cur_peekCharAt, he, ht, h0, Bool.false_eq_true, ↓reduceIte, ↓cur_setInside]

theorem readHTMLLoop_at_nul (position fuel : Nat) (h0 : a.getD p 0 = 0) :
    readHTMLLoop position (fuel + 1) (cur a p i) = (none, cur a p i) := by
  rw [readHTMLLoop]
  simp only [cur_ch, h0, bne_self_eq_false, Bool.false_eq_true, ↓reduceIte]

theorem readHTMLLoop_to_tag (position e : Nat) :
    ∀ (fuel : Nat) (l : LX), l.WF → l.pos ≤ e → e - l.pos < fuel → TextRegion l.input l.pos e →
      l.input.getD e 0 = 60 → l.input.getD (e + 1) 0 = 37 →
      (readHTMLLoop position fuel l).1 = none ∧ (readHTMLLoop position fuel l).2.pos = e
        ∧ (readHTMLLoop position fuel l).2.WF ∧ (readHTMLLoop position fuel l).2.input = l.input
        ∧ (readHTMLLoop position fuel l).2.inside = true := by
  intro fuel l w hle hf hr h60 h37
  obtain ⟨a, p, i, rfl⟩ := w.exists_cur
  simp only [cur_pos, cur_input] at hle hf hr h60 h37
  obtain ⟨n, rfl⟩ : ∃ n, e = p + n := ⟨e - p, by omega⟩
  obtain ⟨g, rfl⟩ : ∃ g, fuel = g + 1 + n := ⟨fuel - 1 - n, by omega⟩
  rw [readHTMLLoop_region position n (g + 1) p hr, readHTMLLoop_at_tag position g h60 h37]
  exact ⟨rfl, rfl, cur_wf _ _ _, rfl, rfl⟩

theorem readHTMLLoop_to_end (position : Nat) :
    ∀ (fuel : Nat) (l : LX), l.WF → l.pos ≤ l.input.size → l.input.size - l.pos < fuel →
      TextRegion l.input l.pos l.input.size →
      (readHTMLLoop position fuel l).1 = none ∧ (readHTMLLoop position fuel l).2.pos = l.input.size
        ∧ (readHTMLLoop position fuel l).2.WF ∧ (readHTMLLoop position fuel l).2.input = l.input
        ∧ (readHTMLLoop position fuel l).2.inside = l.inside := by
  intro fuel l w hle hf hr
  obtain ⟨a, p, i, rfl⟩ := w.exists_cur
  simp only [cur_pos, cur_input] at hle hf hr
  obtain ⟨n, hn⟩ : ∃ n, a.size = p + n := ⟨a.size - p, by omega⟩
  obtain ⟨g, rfl⟩ : ∃ g, fuel = g + 1 + n := ⟨fuel - 1 - n, by omega⟩
  simp only [cur_input, cur_inside]
  rw [hn] at hr ⊢
  rw [readHTMLLoop_region position n (g + 1) p hr, readHTMLLoop_at_nul position g (getD_zero_of_ge _ _ (Nat.le_of_eq hn))]
  exact ⟨rfl, rfl, cur_wf _ _ _, rfl, rfl⟩

/-- `hstop`: what ends the region — a tag opener (`j = true`, `readHTMLLoop_at_tag`) or NUL, in particular the end of
    the input (`j = false`, `readHTMLLoop_at_nul`) -/
theorem nextToken_text {a : Array UInt8} {p : Nat} (e : Nat) (j : Bool) (hlt : p < e) (he : e ≤ a.size)
    (hr : TextRegion a p e) (hstop : ∀ fuel, readHTMLLoop p (fuel + 1) (cur a e false) = (none, cur a e j)) :
    (cur a p false).nextToken =
      ({ type := .HTML, lit := replaceAll [92, 60, 37] [60, 37] (a.extract p e).toList, line := (cur a e j).line }, cur a e j) := by
  obtain ⟨h0, htag, _⟩ := hr p (Nat.le_refl _) hlt
  obtain ⟨n, rfl⟩ : ∃ n, e = p + n := ⟨e - p, by omega⟩
  have c0 : (a.getD p 0 == 0) = false := by simpa using h0
  have c2 : (a.getD p 0 == 60 && a.getD (p + 1) 0 == 37) = false := by simpa using htag
  have hloop : readHTMLLoop p (a.size + 2) (cur a p false) = (none, cur a (p + n) j) := by
    rw [show a.size + 2 = (a.size - n + 1) + 1 + n by omega, readHTMLLoop_region p n _ p hr, hstop]
  simp only [nextToken, readHTML, cur_inside, cur_ch, cur_peekChar, cur_pos, cur_input, c0, c2, hloop,
    slice_cur (Nat.le_add_right p n) he, Bool.false_eq_true, ↓reduceIte]

theorem nextToken_text_to_tag (l : LX) (w : l.WF) (hin : l.inside = false) (e : Nat) (hlt : l.pos < e)
    (hr : TextRegion l.input l.pos e) (h60 : l.input.getD e 0 = 60) (h37 : l.input.getD (e + 1) 0 = 37)
    (hrep : replaceAll [92, 60, 37] [60, 37] (l.input.extract l.pos e).toList = (l.input.extract l.pos e).toList) :
    ∃ ln, l.nextToken.1 = { type := .HTML, lit := (l.input.extract l.pos e).toList, line := ln }
      ∧ l.nextToken.2.pos = e ∧ l.nextToken.2.inside = true ∧ l.nextToken.2.WF ∧ l.nextToken.2.input = l.input := by
  obtain ⟨a, p, i, rfl⟩ := w.exists_cur
  subst hin
  simp only [cur_pos, cur_input] at hlt hr h60 h37 hrep ⊢
  have hes : e ≤ a.size := Nat.le_of_lt (getD_ne_zero_lt (by rw [h60]; decide))
  rw [nextToken_text e true hlt hes hr (fun _ => readHTMLLoop_at_tag _ _ h60 h37), hrep]
  exact ⟨_, rfl, rfl, rfl, cur_wf _ _ _, rfl⟩

theorem cur_atStart {c : UInt8} (h : a.getD p 0 = c) (hc : Gen.isWhitespace c = false ∧ (c == 35) = false) :
    (cur a p i).AtStart := by
  unfold AtStart; rw [cur_ch, h]; exact hc

theorem nextToken_start (h : (cur a p true).AtStart) : (cur a p true).nextToken = nextInsideToken 1 (cur a p true) := by
  rw [nextToken, cur_inside, if_pos rfl]
  exact ((Layout.here _).nextInsideToken_eq h _ (cur_wf _ _ _) (by simp only [cur_input, cur_pos]; omega)).1

theorem nextToken_open (h0 : a.getD p 0 = 60) (h1 : a.getD (p + 1) 0 = 37) :
    (cur a p i).nextToken = nextInsideToken 1 (cur a p true) := by
  rw [← nextToken_start (cur_atStart h0 (by decide))]
  cases i
  · simp (config := { decide := true }) only [nextToken, cur_inside, cur_ch, cur_peekChar, h0, h1, ↓reduceIte, ↓cur_setInside, cur_input]
  · rfl

/- The proofs below evaluate the branch table at a known first byte.  The state is made opaque first, so that the
   byte is rewritten in the tests only and `{ l with inside := … }` keeps its shape; `↓reduceIte` decides each test
   before the branch it guards is looked at. -/

theorem tok_estart (h0 : a.getD p 0 = 60) (h1 : a.getD (p + 1) 0 = 37) (h2 : a.getD (p + 2) 0 = 61) :
    nextInsideToken 1 (cur a p i) = ({ type := .E_START, lit := b "<%=", line := (cur a p i).line }, cur a (p + 3) true) := by
  have hws := skipWhitespace_id (cur a p i) (by rw [cur_ch, h0]; decide)
  have e0 : (cur a p i).ch = 60 := h0
  have e1 : (cur a p i).peekChar = 37 := h1
  have e2 : ({ cur a p i with inside := true } : LX).readChar.peekChar = 61 := h2
  have fin : ({ cur a p i with inside := true } : LX).readChar.readChar.readChar = cur a (p + 3) true := by
    rw [cur_setInside, readChar_cur, readChar_cur, readChar_cur]
  generalize cur a p i = l at hws e0 e1 e2 fin ⊢
  simp only [e0] at e2 fin
  rw [nextInsideToken]
  simp (config := { decide := true }) only [↓reduceIte, hws, e0, e1, e2, fin, two, finish]

theorem tok_sstart (h0 : a.getD p 0 = 60) (h1 : a.getD (p + 1) 0 = 37) (h2 : a.getD (p + 2) 0 ≠ 35)
    (h3 : a.getD (p + 2) 0 ≠ 61) :
    nextInsideToken 1 (cur a p i) = ({ type := .S_START, lit := b "<%", line := (cur a p i).line }, cur a (p + 2) true) := by
  have hws := skipWhitespace_id (cur a p i) (by rw [cur_ch, h0]; decide)
  have e0 : (cur a p i).ch = 60 := h0
  have e1 : (cur a p i).peekChar = 37 := h1
  have e2 : (({ cur a p i with inside := true } : LX).readChar.peekChar == 35) = false := beq_false_of_ne h2
  have e3 : (({ cur a p i with inside := true } : LX).readChar.peekChar == 61) = false := beq_false_of_ne h3
  have fin : ({ cur a p i with inside := true } : LX).readChar.readChar = cur a (p + 2) true := by
    rw [cur_setInside, readChar_cur, readChar_cur]
  generalize cur a p i = l at hws e0 e1 e2 e3 fin ⊢
  simp only [e0] at e2 e3 fin
  rw [nextInsideToken]
  simp (config := { decide := true }) only [↓reduceIte, hws, e0, e1, e2, e3, fin, finish, Bool.false_eq_true]

theorem tok_eend (h0 : a.getD p 0 = 37) (h1 : a.getD (p + 1) 0 = 62) :
    nextInsideToken 1 (cur a p i) = ({ type := .E_END, lit := b "%>", line := (cur a p i).line }, cur a (p + 2) false) := by
  have hws := skipWhitespace_id (cur a p i) (by rw [cur_ch, h0]; decide)
  have e0 : (cur a p i).ch = 37 := h0
  have e1 : (cur a p i).peekChar = 62 := h1
  have fin : ({ cur a p i with inside := false } : LX).readChar.readChar = cur a (p + 2) false := by
    rw [cur_setInside, readChar_cur, readChar_cur]
  generalize cur a p i = l at hws e0 e1 fin ⊢
  simp only [e0] at fin
  rw [nextInsideToken]
  simp (config := { decide := true }) only [↓reduceIte, hws, e0, e1, fin, two, finish]

theorem tok_string (h0 : a.getD p 0 = 34) (c : Bytes) (hno : ∀ x ∈ c, x ≠ 0 ∧ x ≠ 92)
    (hs : Spells a (p + 1) (escQ c ++ [34])) :
    nextInsideToken 1 (cur a p i)
      = ({ type := .STRING, lit := c, line := (cur a p i).line }, cur a (p + 1 + (escQ c).length + 1) i) := by
  have hws := skipWhitespace_id (cur a p i) (by rw [cur_ch, h0]; decide)
  have er := readString_cur (i := i) c (by rw [h0]; decide) hno hs
  have e0 : (cur a p i).ch = 34 := h0
  generalize cur a p i = l at hws e0 er ⊢
  rw [nextInsideToken]
  simp (config := { decide := true }) only [↓reduceIte, hws, e0, er, finish, readChar_cur]

theorem tok_bstring {e : Nat} (h0 : a.getD p 0 = 96) (hlt : p < e) (hcl : a.getD e 0 = 96)
    (hb : ∀ j, p < j → j < e → a.getD j 0 ≠ 96 ∧ a.getD j 0 ≠ 0) :
    nextInsideToken 1 (cur a p i)
      = ({ type := .B_STRING, lit := (a.extract (p + 1) e).toList, line := (cur a p i).line }, cur a (e + 1) i) := by
  have hws := skipWhitespace_id (cur a p i) (by rw [cur_ch, h0]; decide)
  have er := readBString_cur (i := i) (by rw [h0]; decide) hlt hcl hb
  have e0 : (cur a p i).ch = 96 := h0
  generalize cur a p i = l at hws e0 er ⊢
  rw [nextInsideToken]
  simp (config := { decide := true }) only [↓reduceIte, hws, e0, er, finish, readChar_cur]

theorem lower_ne {c : UInt8} (h1 : 97 ≤ c) (h2 : c ≤ 122) (k : UInt8) (hk : k < 97 ∨ 122 < k) : (c == k) = false := by
  apply beq_false_of_ne
  rintro rfl
  rcases hk with hk | hk
  · exact absurd h1 (UInt8.not_le.mpr hk)
  · exact absurd h2 (UInt8.not_le.mpr hk)

theorem lower_letter {c : UInt8} (h1 : 97 ≤ c) (h2 : c ≤ 122) : Gen.isLetter c = true := by
  simp [Gen.isLetter, h1, h2]

def LowerName (name : Bytes) : Prop := name ≠ [] ∧ ∀ x ∈ name, 97 ≤ x ∧ x ≤ (122 : UInt8)

theorem LowerName.first {name : Bytes} (hn : LowerName name) (hs : Spells a p name) : 97 ≤ a.getD p 0 ∧ a.getD p 0 ≤ 122 := by
  have h0 := hs 0 (List.length_pos_iff.mpr hn.1)
  rw [Nat.add_zero] at h0
  rw [h0]; exact hn.2 _ (List.getElem_mem _)

theorem lower_atStart (h : 97 ≤ a.getD p 0 ∧ a.getD p 0 ≤ 122) : (cur a p i).AtStart :=
  cur_atStart rfl ⟨by simp (config := { decide := true }) only [Gen.isWhitespace, lower_ne h.1 h.2, Bool.or_self],
    lower_ne h.1 h.2 35 (by decide)⟩

theorem tok_ident (name : Bytes) (hn : LowerName name) (hs : Spells a p name)
    (hend : (Gen.isLetter (a.getD (p + name.length) 0) || Gen.isDigit (a.getD (p + name.length) 0)) = false) :
    nextInsideToken 1 (cur a p i)
      = ({ type := lookupIdent name, lit := name, line := (cur a p i).line }, cur a (p + name.length) i) := by
  have hlen : 0 < name.length := List.length_pos_iff.mpr hn.1
  have hcls : ∀ j, j < name.length → (Gen.isLetter (a.getD (p + j) 0) || Gen.isDigit (a.getD (p + j) 0)) = true := fun j hj => by
    have := hn.2 _ (List.getElem_mem hj)
    rw [hs j hj, lower_letter this.1 this.2]; rfl
  have hc := hn.first hs
  -- the last byte of the name is not NUL, so the name lies inside the input
  have hsz : p + name.length ≤ a.size := by
    have := getD_ne_zero_lt (a := a) (k := p + (name.length - 1)) (by
      rw [hs _ (by omega)]; intro h0; have := (hn.2 _ (List.getElem_mem (by omega : name.length - 1 < name.length))).1
      rw [h0] at this; exact absurd this (by decide))
    omega
  have er : (cur a p i).readIdentifier = (name, cur a (p + name.length) i) := by
    simp only [readIdentifier, cur_input, cur_pos]
    rw [readWhile_cur _ (a.size + 2) p name.length (by omega) hcls hend, cur_pos, slice_cur (Nat.le_add_right _ _) hsz,
      spells_extract a name p hs hsz]
  have hws := skipWhitespace_id (cur a p i) (lower_atStart hc).1
  have hlet : Gen.isLetter (cur a p i).ch = true := lower_letter hc.1 hc.2
  -- every byte the branch table tests for before it asks `isLetter` lies outside `a`–`z`: `e0` (side condition by
  -- `decide`) fails all those tests
  have e0 := lower_ne (c := (cur a p i).ch) hc.1 hc.2
  generalize cur a p i = l at hws hlet e0 er ⊢
  rw [nextInsideToken]
  simp (config := { decide := true }) only [↓reduceIte, hws, e0, hlet, er, Bool.false_eq_true]

/-- in code mode on a double quote followed by the spelling of `c` and a closing quote: the STRING token holding `c` -/
theorem nextToken_string (l : LX) (w : l.WF) (hin : l.inside = true) (hch : l.ch = 34) (c : Bytes)
    (hno : ∀ x ∈ c, x ≠ 0 ∧ x ≠ 92) (hs : Spells l.input (l.pos + 1) (escQ c ++ [34])) :
    l.nextToken.1 = { type := .STRING, lit := c, line := l.line }
      ∧ l.nextToken.2.pos = l.pos + 2 + (escQ c).length ∧ l.nextToken.2.inside = true ∧ l.nextToken.2.WF := by
  obtain ⟨a, p, i, rfl⟩ := w.exists_cur
  subst hin
  rw [nextToken_start (cur_atStart hch (by decide)), tok_string hch c hno hs]
  exact ⟨rfl, by simp only [cur_pos]; omega, rfl, cur_wf _ _ _⟩

/-- … on a back quote: the B_STRING token holding the raw bytes up to the next back quote -/
theorem nextToken_bstring (l : LX) (w : l.WF) (hin : l.inside = true) (hch : l.ch = 96) (e : Nat) (hlt : l.pos < e)
    (hcl : l.input.getD e 0 = 96) (hb : ∀ i, l.pos < i → i < e → l.input.getD i 0 ≠ 96 ∧ l.input.getD i 0 ≠ 0) :
    l.nextToken.1 = { type := .B_STRING, lit := (l.input.extract (l.pos + 1) e).toList, line := l.line }
      ∧ l.nextToken.2.pos = e + 1 ∧ l.nextToken.2.inside = true ∧ l.nextToken.2.WF := by
  obtain ⟨a, p, i, rfl⟩ := w.exists_cur
  subst hin
  rw [nextToken_start (cur_atStart hch (by decide)), tok_bstring hch hlt hcl hb]
  exact ⟨rfl, rfl, rfl, cur_wf _ _ _⟩

/-- `<%=` in either mode -/
theorem nextToken_estart_any (l : LX) (w : l.WF) (h0 : l.ch = 60)
    (h1 : l.input.getD (l.pos + 1) 0 = 37) (h2 : l.input.getD (l.pos + 2) 0 = 61) :
    l.nextToken.1 = { type := .E_START, lit := b "<%=", line := l.line }
      ∧ l.nextToken.2.pos = l.pos + 3 ∧ l.nextToken.2.inside = true ∧ l.nextToken.2.WF
      ∧ l.nextToken.2.input = l.input := by
  obtain ⟨a, p, i, rfl⟩ := w.exists_cur
  simp only [cur_ch, cur_pos, cur_input] at h0 h1 h2
  rw [nextToken_open h0 h1, tok_estart h0 h1 h2]
  exact ⟨rfl, rfl, rfl, cur_wf _ _ _, rfl⟩

theorem nextToken_estart (l : LX) (w : l.WF) (hin : l.inside = false) (h0 : l.ch = 60)
    (h1 : l.input.getD (l.pos + 1) 0 = 37) (h2 : l.input.getD (l.pos + 2) 0 = 61) :
    l.nextToken.1 = { type := .E_START, lit := b "<%=", line := l.line }
      ∧ l.nextToken.2.pos = l.pos + 3 ∧ l.nextToken.2.inside = true ∧ l.nextToken.2.WF
      ∧ l.nextToken.2.input = l.input :=
  nextToken_estart_any l w h0 h1 h2

/-- after literal text the opener is met in code mode: `readHTML` has already set `inside` when it stopped on it -/
theorem nextToken_estart_inside (l : LX) (w : l.WF) (hin : l.inside = true) (h0 : l.ch = 60)
    (h1 : l.input.getD (l.pos + 1) 0 = 37) (h2 : l.input.getD (l.pos + 2) 0 = 61) :
    l.nextToken.1 = { type := .E_START, lit := b "<%=", line := l.line }
      ∧ l.nextToken.2.pos = l.pos + 3 ∧ l.nextToken.2.inside = true ∧ l.nextToken.2.WF
      ∧ l.nextToken.2.input = l.input :=
  nextToken_estart_any l w h0 h1 h2

theorem nextToken_eend (l : LX) (w : l.WF) (hin : l.inside = true) (h0 : l.ch = 37)
    (h1 : l.input.getD (l.pos + 1) 0 = 62) :
    l.nextToken.1 = { type := .E_END, lit := b "%>", line := l.line }
      ∧ l.nextToken.2.pos = l.pos + 2 ∧ l.nextToken.2.inside = false ∧ l.nextToken.2.WF
      ∧ l.nextToken.2.input = l.input := by
  obtain ⟨a, p, i, rfl⟩ := w.exists_cur
  subst hin
  simp only [cur_ch, cur_pos, cur_input] at h0 h1
  rw [nextToken_start (cur_atStart h0 (by decide)), tok_eend h0 h1]
  exact ⟨rfl, rfl, rfl, cur_wf _ _ _, rfl⟩

theorem nextToken_ident (l : LX) (w : l.WF) (hin : l.inside = true) (name : Bytes) (hn : LowerName name)
    (hkw : lookupIdent name = .IDENT) (hs : Spells l.input l.pos name) (hend : l.input.getD (l.pos + name.length) 0 = 37) :
    l.nextToken.1 = { type := .IDENT, lit := name, line := l.line }
      ∧ l.nextToken.2.pos = l.pos + name.length ∧ l.nextToken.2.inside = true ∧ l.nextToken.2.WF
      ∧ l.nextToken.2.input = l.input := by
  obtain ⟨a, p, i, rfl⟩ := w.exists_cur
  subst hin
  simp only [cur_pos, cur_input] at hs hend
  rw [nextToken_start (lower_atStart (hn.first hs)), tok_ident name hn hs (by rw [hend]; decide), hkw]
  exact ⟨rfl, rfl, rfl, cur_wf _ _ _, rfl⟩

end LX
end Plush
