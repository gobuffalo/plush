import PlushModel
import PlushProofs.Props.C20
import PlushProofs.Props.C02
import PlushProofs.Lib.EvalPaths
/-!
  C01 — string data is always HTML-escaped on output; only trusted HTML is verbatim.
  `Gen.writeCases` is TRANSLATED from the type switch of `compiler.write`; `writeVal` is its model on the
  value universe (tied by the `render-gen` stream).
-/
namespace Plush
open Gen

def armOf (ty : String) : Option (Nat × String) :=
  ((List.zipIdx Gen.writeCases).find? fun (row, _) => row.1.contains ty).map fun (row, i) => (i, row.2)

/-- the sink's arms: string and bool are escaped and come BEFORE the fmt.Stringer arm; template.HTML is
    written verbatim, HTMLer through HTML(); []string, []interface{} and return wrappers recurse into the
    sink (so their string elements are escaped); no arm has an action outside the nine classes the model knows -/
theorem C01_write_table :
    (armOf "string").map (·.2) = some "escape" ∧ (armOf "bool").map (·.2) = some "escape" ∧
    (armOf "template.HTML").map (·.2) = some "verbatim" ∧ (armOf "HTMLer").map (·.2) = some "htmler" ∧
    (armOf "[]string").map (·.2) = some "recurse" ∧ (armOf "[]interface{}").map (·.2) = some "recurse" ∧
    (armOf "returnObject").map (·.2) = some "recurse" ∧
    (∃ i j, armOf "string" = some (i, "escape") ∧ armOf "fmt.Stringer" = some (j, "stringer") ∧ i < j) ∧
    (List.map (·.2) Gen.writeCases).all (fun c => c ∈ ["time", "deref", "unwrap", "escape", "verbatim", "htmler", "sprint", "stringer", "recurse"]) = true := by
  refine ⟨by decide, by decide, by decide, by decide, by decide, by decide, by decide, ⟨3, 7, by decide, by decide, by decide⟩, by decide⟩

theorem C01_write_str (h : HeapView) (f : Nat) (s : Bytes) : writeVal h (f + 1) (.str s) = some [.esc s] := rfl
theorem C01_write_bool (h : HeapView) (f : Nat) (v : Bool) :
    writeVal h (f + 1) (.bool v) = some [.esc (if v then b "true" else b "false")] := rfl
/-- trusted HTML is emitted exactly once and unmodified -/
theorem C01_write_html (h : HeapView) (f : Nat) (s : Bytes) : writeVal h (f + 1) (.html s) = some [.trusted s] := rfl

/-- an escaped chunk never contributes a raw < > ' " to the output -/
theorem C01_esc_chunk_safe (s : Bytes) : ∀ x ∈ (Chunk.esc s).flatten, x ≠ 60 ∧ x ≠ 62 ∧ x ≠ 39 ∧ x ≠ 34 :=
  C20_html_no_specials s

-- values built only from Go strings by the routes that end in the sink as []interface{} / return
-- wrappers (loops, blocks, user functions, array literals): any nesting, any depth
inductive StrTree
  | leaf (s : Bytes)
  | seq (ts : List StrTree)      -- []interface{} built by a block / loop / array literal
  | ret (ts : List StrTree)      -- returnObject

mutual
def StrTree.toVal : StrTree → Val
  | .leaf s => .str s
  | .seq ts => .ilist (StrTree.toVals ts)
  | .ret ts => .ret (StrTree.toVals ts)
def StrTree.toVals : List StrTree → List Val
  | [] => []
  | t :: r => t.toVal :: StrTree.toVals r
end

def allEsc (cs : List Chunk) : Prop := ∀ c ∈ cs, ∃ s, c = .esc s

mutual
theorem writeVal_strTree (h : HeapView) : ∀ (t : StrTree) (f : Nat) (cs : List Chunk),
    writeVal h f t.toVal = some cs → allEsc cs
  | .leaf s, f, cs, hw => by
    cases f with
    | zero => simp [writeVal] at hw
    | succ f =>
      simp [StrTree.toVal, writeVal] at hw
      subst hw; intro c hc; simp at hc; exact ⟨s, hc⟩
  | .seq ts, f, cs, hw => by
    cases f with
    | zero => simp [writeVal] at hw
    | succ f =>
      simp only [StrTree.toVal, writeVal] at hw
      exact writeVals_strTree h ts f cs hw
  | .ret ts, f, cs, hw => by
    cases f with
    | zero => simp [writeVal] at hw
    | succ f =>
      simp only [StrTree.toVal, writeVal] at hw
      exact writeVals_strTree h ts f cs hw
theorem writeVals_strTree (h : HeapView) : ∀ (ts : List StrTree) (f : Nat) (cs : List Chunk),
    writeVals h f (StrTree.toVals ts) = some cs → allEsc cs
  | [], f, cs, hw => by
    cases f with
    | zero => simp [writeVals] at hw
    | succ f => simp [StrTree.toVals, writeVals] at hw; subst hw; intro c hc; simp at hc
  | t :: r, f, cs, hw => by
    cases f with
    | zero => simp [writeVals] at hw
    | succ f =>
      simp only [StrTree.toVals, writeVals, bind, Option.bind] at hw
      cases ha : writeVal h f t.toVal with
      | none => simp [ha] at hw
      | some a =>
        cases hb : writeVals h f (StrTree.toVals r) with
        | none => simp [ha, hb] at hw
        | some c =>
          simp [ha, hb] at hw
          subst hw
          intro x hx
          rcases List.mem_append.mp hx with hx | hx
          · exact writeVal_strTree h t f a ha x hx
          · exact writeVals_strTree h r f c hb x hx
end

/-- routes: whatever nesting of []interface{} and return wrappers (`StrTree`) a Go string takes to the sink, every byte
    written for it comes from an escaped chunk: no raw < > ' " reaches the output -/
theorem C01_routes (h : HeapView) (t : StrTree) (f : Nat) (cs : List Chunk) (hw : writeVal h f t.toVal = some cs) :
    ∀ x ∈ flattenChunks cs, x ≠ 60 ∧ x ≠ 62 ∧ x ≠ 39 ∧ x ≠ 34 := by
  intro x hx
  simp only [flattenChunks, List.mem_flatMap] at hx
  obtain ⟨c, hc, hxc⟩ := hx
  obtain ⟨s, rfl⟩ := writeVal_strTree h t f cs hw c hc
  exact C01_esc_chunk_safe s x hxc

/-- END TO END: a string written in a template comes out escaped, whatever it contains. For every content `c`
    (no NUL, no backslash), on any data, heap and partial feeder, the template `<%="…"%>` spelling `c` renders to
    `htmlEscape c`, which contains none of `<` `>` `'` `"` (`C02_output_tag_with_string_end_to_end` with the escaper's
    safety theorem `C20_html_no_specials`). -/
theorem C01_string_literal_output_is_escaped_end_to_end (c : Bytes) (hno : ∀ x ∈ c, x ≠ 0 ∧ x ≠ 92)
    (data : List (Bytes × Val)) (heap : Array HeapObj) (feeder : List (Bytes × Bytes)) :
    ∃ out, (renderTop (LX.outTagSrc c) data heap feeder).1 = .ok out ∧ out = htmlEscape c
      ∧ ∀ x ∈ out, x ≠ 60 ∧ x ≠ 62 ∧ x ≠ 39 ∧ x ≠ 34 :=
  ⟨htmlEscape c, C02_output_tag_with_string_end_to_end c hno data heap feeder, rfl, C20_html_no_specials c⟩

theorem render_identTag (name : Bytes) (hn : LX.LowerName name) (hkw : LX.lookupIdent name = .IDENT) (fuel ctx : Nat) (s : ES)
    (v : Val) (cs : List Chunk) (hhas : s.store.has ctx name = true) (hval : s.store.value ctx name = v)
    (hw : ∀ h, writeVal h 64 v = some cs) :
    renderIn (fuel + 5) (LX.identTagSrc name) ctx s = (.ok (flattenChunks cs), s) := by
  obtain ⟨t0, t1, hparse⟩ := P.parse_identTag name hn hkw
  have hev : evalExpr (fuel + 3) (some (.ident { tok := t1, segs := [name] })) { s with cur := ctx, curStmt := none }
      = (.ok v, { s with cur := ctx, curStmt := none }) := by
    simp [evalExpr, evalIdent_root, rootValue, hhas, hval]
  rw [renderIn_of_parse hparse (s1 := { s with cur := ctx, curStmt := none })]
  rw [C02_output_tag (h := hev) (hw := hw _), compileStmts_nil]; rfl

/-- END TO END, DATA TO OUTPUT: a Go string bound in the context comes out escaped. For every lower-case name that is
    not a keyword and every string value `v` (any bytes at all): when `name` is bound to `v` in the context the render runs
    in, the template `<%=name%>` renders to exactly `htmlEscape v`, that output contains none of `<` `>` `'` `"`, and the
    evaluator state is left as it was (lexer, parser, evaluator and sink composed). -/
theorem C01_string_data_is_escaped_end_to_end (name v : Bytes) (hn : LX.LowerName name)
    (hkw : LX.lookupIdent name = .IDENT) (fuel ctx : Nat) (s : ES)
    (hhas : s.store.has ctx name = true) (hval : s.store.value ctx name = .str v) :
    renderIn (fuel + 5) (LX.identTagSrc name) ctx s = (.ok (htmlEscape v), s)
      ∧ ∀ x ∈ htmlEscape v, x ≠ 60 ∧ x ≠ 62 ∧ x ≠ 39 ∧ x ≠ 34 := by
  refine ⟨?_, C20_html_no_specials v⟩
  rw [render_identTag name hn hkw fuel ctx s (.str v) [.esc v] hhas hval (fun _ => rfl)]
  simp [flattenChunks, Chunk.flatten]

/-- END TO END: a `template.HTML` value bound to `name` comes out of `<%=name%>` verbatim. The sink tells it from a Go
    string by the VALUE's type; nothing in the template does. -/
theorem C01_trusted_html_is_verbatim_end_to_end (name v : Bytes) (hn : LX.LowerName name)
    (hkw : LX.lookupIdent name = .IDENT) (fuel ctx : Nat) (s : ES)
    (hhas : s.store.has ctx name = true) (hval : s.store.value ctx name = .html v) :
    renderIn (fuel + 5) (LX.identTagSrc name) ctx s = (.ok v, s) := by
  rw [render_identTag name hn hkw fuel ctx s (.html v) [.trusted v] hhas hval (fun _ => rfl)]
  simp [flattenChunks, Chunk.flatten]

-- non-vacuity: `user` is a lower-case name and not a keyword; its template is `<%=user%>`
example : LX.LowerName [117, 115, 101, 114] ∧ LX.lookupIdent [117, 115, 101, 114] = .IDENT
    ∧ LX.identTagSrc [117, 115, 101, 114] = [60, 37, 61, 117, 115, 101, 114, 37, 62] :=
  ⟨⟨by decide, by decide⟩, by decide, by decide⟩

end Plush
