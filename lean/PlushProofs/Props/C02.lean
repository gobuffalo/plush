import PlushModel
import PlushProofs.Lib.TemplateShapes
import PlushProofs.Lib.EvalRun
/-!
  C02 — output = literal text verbatim + values of `<%= %>` tags, in source order.
  Evaluator: `compileStmts` / `evalStmtBody` (models of compiler.compile and evalStatement) append literal text
  verbatim and the value of an output tag through the sink; code tags and comments contribute nothing — at top
  level and inside blocks.  Lexer: string literals denote their content.  End to end (lexer ∘ parser ∘ evaluator;
  token streams and parses in `Lib/TemplateShapes.lean`): tag-free text, `<%="…"%>`, `<%"…"%>`, text – tag – text.
  Left out: the two escapes `\<%` and `\\<%` of literal text.  They are in the model (`readHTMLLoop`), tied to /repo by
  the exhaustive `lex-text` / `parse-text` streams; the literal text of the theorems here is free of them.
-/
namespace Plush
open EM

/-- literal text at top level is appended to the output byte for byte -/
theorem C02_text_verbatim (fuel : Nat) (t ht : Token) (v : Bytes) (rest : List Stmt) (out : Bytes) (s : ES) :
    compileStmts (fuel + 1) (.es t (some (.html ht v)) :: rest) out s =
      compileStmts fuel rest (out ++ v) { s with curStmt := none } := by
  simp [compileStmts, bind, modifyS, attempt, pure, renderVal, getS, writeVal, flattenChunks, Chunk.flatten]

/-- a code tag `<% e %>` at top level contributes NOTHING to the output, whatever its value -/
theorem C02_silent_tag (fuel : Nat) (t : Token) (e : Expr) (rest : List Stmt) (out : Bytes) (s s1 : ES) (v : Val)
    (hne : ∀ ht hv, e ≠ .html ht hv)
    (h : evalExpr fuel (some e) ({ s with curStmt := none }) = (.ok v, s1)) :
    compileStmts (fuel + 1) (.es t (some e) :: rest) out s = compileStmts fuel rest out s1 := by
  have hrun : (do let _ ← evalExpr fuel (some e); pure Val.nil) ({ s with curStmt := none } : ES) = (.ok Val.nil, s1) :=
    bind_ok h
  -- the equation of `compile` for an expression statement that is not literal text: the value is dropped, nil is written
  rw [compileStmts]
  · rw [bind_ok (show modifyS _ s = (.ok (), { s with curStmt := none }) from rfl), bind_ok (attempt_ok hrun)]
    show (renderVal Val.nil >>= fun bs => compileStmts fuel rest (out ++ bs)) s1 = _
    rw [bind_ok (show renderVal Val.nil s1 = (.ok [], s1) from rfl), List.append_nil]
  · exact fun tok v he => hne tok v (Option.some.inj he)

/-- `let` at top level contributes nothing to the output -/
theorem C02_let_silent (fuel : Nat) (t : Token) (n : Ident) (e : Option Expr) (rest : List Stmt) (out : Bytes)
    (s s1 : ES) (v : Val) (h : evalExpr fuel e ({ s with curStmt := none }) = (.ok v, s1)) :
    compileStmts (fuel + 1) (.let_ t (some n) e :: rest) out s =
      compileStmts fuel rest out { s1 with store := s1.store.set s1.cur n.value v } := by
  simp [compileStmts, bind, modifyS, attempt, pure, renderVal, getS, writeVal, flattenChunks, h, ctxSet]

/-- an output tag `<%= e %>` appends exactly what the sink writes for its value, after what was there -/
theorem C02_output_tag (fuel : Nat) (t : Token) (e : Option Expr) (rest : List Stmt) (out : Bytes)
    (s s1 : ES) (v : Val) (cs : List Chunk)
    (h : evalExpr fuel e ({ s with curStmt := none }) = (.ok v, s1))
    (hw : writeVal (heapView s1) 64 v = some cs) :
    compileStmts (fuel + 1) (.ret true t e :: rest) out s = compileStmts fuel rest (out ++ flattenChunks cs) s1 := by
  simp [compileStmts, bind, modifyS, attempt, pure, renderVal, getS, h, hw]

/-- INSIDE BLOCKS (if / for / fn / helper blocks): an expression statement yields a value for the block's
    output only when it is literal text or a control-flow object — a code tag whose value happens to be
    HTML (e.g. `<% raw("<b>") %>`) contributes nothing -/
theorem C02_block_silent (fuel : Nat) (t : Token) (e : Expr) (s s1 : ES) (v : Val)
    (hne : ∀ ht hv, e ≠ .html ht hv) (hx : v.isExit = false)
    (h : evalExpr fuel (some e) s = (.ok v, s1)) :
    evalStmtBody (fuel + 1) (.es t (some e)) s = (.ok .nil, s1) := by
  simp only [evalStmtBody, bind_ok h]
  refine congrFun (g := (pure Val.nil : EM Val)) ?_ s1
  -- the five arms: three control-flow objects, literal text, everything else
  split
  · cases hx
  · cases hx
  · cases hx
  · rename_i he; cases he; exact absurd rfl (hne _ _)
  · rfl

theorem C02_block_text (fuel : Nat) (t ht : Token) (hv : Bytes) (s : ES) :
    evalStmtBody (fuel + 2) (.es t (some (.html ht hv))) s = (.ok (.html hv), s) := by
  simp [evalStmtBody, evalExpr, bind, pure]

/-- a comment tag parses to the empty string literal (an expression statement: silent by `C02_silent_tag`) -/
theorem C02_comment_value (fuel : Nat) (s : PS) (h : (P.tokAt s s.pos).type = .E_END) :
    (P.commentLoop (fuel + 1)).run s = .ok (some (.str (P.tokAt s s.pos) []), s) :=
  P.commentLoop_stops fuel s (.inl h)

/-- tag-free text parses to ONE statement, the literal, and no error -/
theorem C02_tagless_parse (t : Bytes) (hp : LX.Plain t.toArray) (hne : t ≠ []) :
    ∃ ln, parseBytes t = .ok ({ stmts := [.es { type := .HTML, lit := t, line := ln }
        (some (.html { type := .HTML, lit := t, line := ln } t))] }, #[]) := by
  obtain ⟨ln, h0, hk⟩ := tokens_plain t.toArray hp (by simpa using List.length_pos_iff.mpr hne)
  refine ⟨ln, parseBytes_of_loop _ _ fun s n f herr htok => ?_⟩
  apply P.loop_text 0 ((htok 0).trans h0) ((htok 1).trans (hk 0)) rfl rfl
  exact P.loop_eof 1 ((htok 1).trans (hk 0)) rfl ⟨rfl, herr⟩

/-- rendering tag-free text in any context returns the text and leaves contexts, heap and helper state untouched -/
theorem C02_tagless_no_side_effect (t : Bytes) (hp : LX.Plain t.toArray) (hne : t ≠ []) (fuel ctx : Nat) (s : ES) :
    renderIn (fuel + 3) t ctx s = (.ok t, s) := by
  obtain ⟨ln, hparse⟩ := C02_tagless_parse t hp hne
  rw [renderIn_of_parse hparse (s1 := { s with cur := ctx, curStmt := none })]
  rw [C02_text_verbatim, compileStmts_nil]; rfl

/-- A TEMPLATE WITHOUT TAGS RENDERS TO ITSELF: for every byte string that contains no `<%` and no NUL byte
    (outside a tag Go's lexer takes NUL for the end of the input), on any data, heap and partial feeder, the model of
    `plush.Render` returns exactly the input (lexer, parser and evaluator composed). -/
theorem C02_tagless_renders_to_itself (t : Bytes) (hp : LX.Plain t.toArray)
    (data : List (Bytes × Val)) (heap : Array HeapObj) (feeder : List (Bytes × Bytes)) :
    (renderTop t data heap feeder).1 = .ok t := by
  cases t with
  | nil =>
    -- the empty template has no token but EOF and no statement
    have hr : ∀ fuel ctx s, renderIn (fuel + 2) [] ctx s = (.ok [], s) := fun fuel ctx s => by
      rw [renderIn_of_parse (show parseBytes [] = .ok ({ stmts := [] }, #[]) from rfl) (compileStmts_nil _ _ _)]
    exact renderTop_of_renderIn 2 (by decide) hr data heap feeder
  | cons c r => exact renderTop_of_renderIn 3 (by decide) (C02_tagless_no_side_effect (c :: r) hp (by simp)) data heap feeder

-- non-vacuity: `a<b%>c\` (a lone `<`, a lone `%>`, a trailing backslash) is plain
example : LX.Plain #[97, 60, 98, 37, 62, 99, 92] := by
  constructor
  · intro i hi
    have : i < 7 := hi
    rcases i with _|_|_|_|_|_|_|i <;> first | decide | omega
  · intro i
    rcases i with _|_|_|_|_|_|_|i
    all_goals first | decide | (intro h; have h1 := h.1; rw [LX.getD_zero_of_ge _ _ (by simp)] at h1; exact absurd h1 (by decide))

/-- A DOUBLE-QUOTED STRING DENOTES EXACTLY ITS CONTENT: let `c` be any byte string free of NUL and backslash — quotes,
    tag delimiters `<%` `%>`, `#`, newlines all allowed. When the scanner, in code mode, stands on a `"` that is followed
    by the spelling of `c` (each `"` of `c` written `\"`) and a closing `"`, the next token is the STRING whose literal
    is `c` itself, stamped with the line the string starts on; the scan goes on right after the closing quote, still in
    code mode, and no slice expression went out of range. -/
theorem C02_double_quoted_string_denotes_its_content (l : LX) (w : l.WF) (hin : l.inside = true) (hch : l.ch = 34)
    (c : Bytes) (hno : ∀ x ∈ c, x ≠ 0 ∧ x ≠ 92) (hs : LX.Spells l.input (l.pos + 1) (LX.escQ c ++ [34])) :
    l.nextToken.1 = { type := .STRING, lit := c, line := l.line }
      ∧ l.nextToken.2.pos = l.pos + 2 + (LX.escQ c).length ∧ l.nextToken.2.inside = true ∧ l.nextToken.2.WF :=
  LX.nextToken_string l w hin hch c hno hs

/-- A BACK-QUOTED STRING IS TAKEN RAW: whatever stands between two back quotes (no back quote, no NUL; backslashes,
    double quotes, tag delimiters, newlines allowed) is the literal of the B_STRING token, byte for byte. -/
theorem C02_back_quoted_string_is_raw (l : LX) (w : l.WF) (hin : l.inside = true) (hch : l.ch = 96) (e : Nat)
    (hlt : l.pos < e) (hcl : l.input.getD e 0 = 96)
    (hb : ∀ i, l.pos < i → i < e → l.input.getD i 0 ≠ 96 ∧ l.input.getD i 0 ≠ 0) :
    l.nextToken.1 = { type := .B_STRING, lit := (l.input.extract (l.pos + 1) e).toList, line := l.line }
      ∧ l.nextToken.2.pos = e + 1 ∧ l.nextToken.2.inside = true ∧ l.nextToken.2.WF :=
  LX.nextToken_bstring l w hin hch e hlt hcl hb

/-- the spelling is undone exactly: `strings.Replace(escQ c, `\"`, `"`, -1)` is `c` for every backslash-free `c` -/
theorem C02_unescape_inverts_escape (c : Bytes) (h : (92 : UInt8) ∉ c) : replaceAll [92, 34] [34] (LX.escQ c) = c :=
  LX.replaceAll_escQ c h

-- the limit of the escape (a witness, not a law): content ending in a backslash has no spelling — in `"a\"` the
-- `\"` is an escaped quote, the string loop runs on to the end of the input (position 4 of 4)
example : (LX.readStringLoop 6 (LX.new #[34, 97, 92, 34])).pos = 4 := by decide

-- non-vacuity: on `"a\"<%#"` + blank the hypotheses hold with content `a"<%#`, and the theorem's conclusion is what the
-- scanner computes
example : LX.Spells #[34, 97, 92, 34, 60, 37, 35, 34, 32] 1 (LX.escQ [97, 34, 60, 37, 35] ++ [34]) := by
  intro j hj
  have : j < 7 := by simpa [LX.escQ] using hj
  rcases j with _|_|_|_|_|_|_|j <;> first | rfl | omega
example : ({ LX.new #[34, 97, 92, 34, 60, 37, 35, 34, 32] with inside := true } : LX).nextToken.1
    = { type := .STRING, lit := [97, 34, 60, 37, 35], line := 1 } := by
  have h := C02_double_quoted_string_denotes_its_content
    ({ LX.new #[34, 97, 92, 34, 60, 37, 35, 34, 32] with inside := true } : LX)
    (LX.wf_setInside (LX.new_wf _) true) rfl rfl [97, 34, 60, 37, 35] (by decide)
    (by intro j hj
        have : j < 7 := by simpa [LX.escQ] using hj
        rcases j with _|_|_|_|_|_|_|j <;> first | rfl | omega)
  exact h.1

/-- rendering `<%="…"%>` in any context: the escape of the content, and contexts, heap and helper state are left untouched -/
theorem C02_output_tag_no_side_effect (c : Bytes) (hno : ∀ x ∈ c, x ≠ 0 ∧ x ≠ 92) (fuel ctx : Nat) (s : ES) :
    renderIn (fuel + 3) (LX.outTagSrc c) ctx s = (.ok (htmlEscape c), s) := by
  obtain ⟨t0, t1, _, hparse⟩ := P.parse_outTag c hno
  rw [renderIn_of_parse hparse (s1 := { s with cur := ctx, curStmt := none })]
  rw [C02_output_tag (h := evalExpr_str _ _ _ _) (hw := rfl), compileStmts_nil]
  simp [flattenChunks, Chunk.flatten]

/-- END TO END, with a tag: for every content `c` (no NUL, no backslash — quotes, `<`, `>`, `&`, `%>`, `<%`, `#`,
    newlines all allowed) the template `<%="` + spelling of `c` + `"%>` renders, on any data, heap and partial feeder, to
    exactly the HTML escape of `c`: the tag delimiters, the quotes and the escape backslashes contribute nothing
    (lexer, parser and evaluator composed). -/
theorem C02_output_tag_with_string_end_to_end (c : Bytes) (hno : ∀ x ∈ c, x ≠ 0 ∧ x ≠ 92)
    (data : List (Bytes × Val)) (heap : Array HeapObj) (feeder : List (Bytes × Bytes)) :
    (renderTop (LX.outTagSrc c) data heap feeder).1 = .ok (htmlEscape c) :=
  renderTop_of_renderIn 3 (by decide) (C02_output_tag_no_side_effect c hno) data heap feeder

/-- the token stream of `<%="…"%>` spelling `c`: E_START, STRING `c`, E_END, then EOF for ever -/
theorem C02_output_tag_tokens (c : Bytes) (hno : ∀ x ∈ c, x ≠ 0 ∧ x ≠ 92) :
    ∃ l0 l1 l2 l3,
      tokenAt 0 (LX.new (LX.outTagSrc c).toArray) = { type := .E_START, lit := b "<%=", line := l0 } ∧
      tokenAt 1 (LX.new (LX.outTagSrc c).toArray) = { type := .STRING, lit := c, line := l1 } ∧
      tokenAt 2 (LX.new (LX.outTagSrc c).toArray) = { type := .E_END, lit := b "%>", line := l2 } ∧
      ∀ k, tokenAt (k + 3) (LX.new (LX.outTagSrc c).toArray) = { type := .EOF, lit := [], line := l3 } :=
  tokens_outTag c hno

-- non-vacuity: the template for the content `a"<b` is `<%="a\"<b"%>`
example : LX.outTagSrc [97, 34, 60, 98] = [60, 37, 61, 34, 97, 92, 34, 60, 98, 34, 37, 62] := by decide

/-- rendering `<%"…"%>` in any context: nothing, and no side effect -/
theorem C02_code_tag_no_side_effect (c : Bytes) (hno : ∀ x ∈ c, x ≠ 0 ∧ x ≠ 92) (fuel ctx : Nat) (s : ES) :
    renderIn (fuel + 3) (LX.codeTagSrc c) ctx s = (.ok [], s) := by
  obtain ⟨t1, _, hparse⟩ := P.parse_codeTag c hno
  rw [renderIn_of_parse hparse (s1 := { s with cur := ctx, curStmt := none })]
  rw [C02_silent_tag (hne := fun _ _ h => Expr.noConfusion h) (h := evalExpr_str _ _ _ _), compileStmts_nil]

/-- END TO END, a code tag is silent: a string literal in a CODE tag — `<%"…"%>` — renders to NOTHING, for every content
    `c` (no NUL, no backslash), on any data, heap and partial feeder: the value is computed and dropped. With
    `C02_output_tag_with_string_end_to_end` this is the difference between `<%= %>` and `<% %>`. -/
theorem C02_code_tag_with_string_renders_nothing (c : Bytes) (hno : ∀ x ∈ c, x ≠ 0 ∧ x ≠ 92)
    (data : List (Bytes × Val)) (heap : Array HeapObj) (feeder : List (Bytes × Bytes)) :
    (renderTop (LX.codeTagSrc c) data heap feeder).1 = .ok [] :=
  renderTop_of_renderIn 3 (by decide) (C02_code_tag_no_side_effect c hno) data heap feeder

/-- the parser's view of `pre <%="…"%> post`: three statements — the text, the output statement, the text — in source
    order, no syntax error -/
theorem C02_text_tag_text_parse (pre c post : Bytes) (hp : LX.PlainL pre) (hpne : pre ≠ [])
    (hlast : pre.getD (pre.length - 1) 0 ≠ 92) (hq : LX.PlainL post) (hqne : post ≠ [])
    (hno : ∀ x ∈ c, x ≠ 0 ∧ x ≠ 92) :
    ∃ h0 t1 t2 h4 : Token,
      parseBytes (LX.ttSrc pre c post) = .ok ({ stmts := [.es h0 (some (.html h0 pre)), .ret true t1 (some (.str t2 c)),
        .es h4 (some (.html h4 post))] }, #[]) := by
  obtain ⟨l0, l1, l2, l3, l4, l5, g0, g1, g2, g3, g4, gk⟩ := tokens_tt pre c post hp hpne hlast hq hqne hno
  refine ⟨{ type := .HTML, lit := pre, line := l0 }, { type := .E_START, lit := b "<%=", line := l1 },
    { type := .STRING, lit := c, line := l2 }, { type := .HTML, lit := post, line := l4 },
    parseBytes_of_loop _ _ fun s n f herr htok => ?_⟩
  apply P.loop_text 0 ((htok 0).trans g0) ((htok 1).trans g1) rfl rfl
  apply P.loop_out 1 ((htok 1).trans g1) ((htok 2).trans g2) ((htok 3).trans g3) rfl (Or.inr (Or.inl rfl)) rfl
  apply P.loop_close 3 ((htok 3).trans g3) ((htok 4).trans g4) rfl rfl
  apply P.loop_text 4 ((htok 4).trans g4) ((htok 5).trans (gk 0)) rfl rfl
  exact P.loop_eof 5 ((htok 5).trans (gk 0)) rfl ⟨rfl, herr⟩

/-- rendering `pre <%="…"%> post` in any context: text, escaped value, text, and no side effect on the evaluator state -/
theorem C02_text_tag_text_no_side_effect (pre c post : Bytes) (hp : LX.PlainL pre) (hpne : pre ≠ [])
    (hlast : pre.getD (pre.length - 1) 0 ≠ 92) (hq : LX.PlainL post) (hqne : post ≠ [])
    (hno : ∀ x ∈ c, x ≠ 0 ∧ x ≠ 92) (fuel ctx : Nat) (s : ES) :
    renderIn (fuel + 5) (LX.ttSrc pre c post) ctx s = (.ok (pre ++ htmlEscape c ++ post), s) := by
  obtain ⟨h0, t1, t2, h4, hparse⟩ := C02_text_tag_text_parse pre c post hp hpne hlast hq hqne hno
  rw [renderIn_of_parse hparse (s1 := { s with cur := ctx, curStmt := none })]
  rw [C02_text_verbatim, C02_output_tag (h := evalExpr_str _ _ _ _) (hw := rfl), C02_text_verbatim, compileStmts_nil]
  simp [flattenChunks, Chunk.flatten]

/-- END TO END, text – tag – text, in source order. For every non-empty literal text `pre` and `post` (no NUL, no
    `<%`; `pre` not ending in a backslash, which would escape the tag) and every string content `c` (no NUL, no backslash),
    on any data, heap and partial feeder, the model of `plush.Render` on `pre ++ <%="c"%> ++ post` returns exactly
    `pre ++ htmlEscape c ++ post`: the literal text outside the tag byte for byte, the value of the tag between them, in
    source order (lexer, parser and evaluator composed). -/
theorem C02_text_tag_text_in_source_order (pre c post : Bytes) (hp : LX.PlainL pre) (hpne : pre ≠ [])
    (hlast : pre.getD (pre.length - 1) 0 ≠ 92) (hq : LX.PlainL post) (hqne : post ≠ [])
    (hno : ∀ x ∈ c, x ≠ 0 ∧ x ≠ 92) (data : List (Bytes × Val)) (heap : Array HeapObj) (feeder : List (Bytes × Bytes)) :
    (renderTop (LX.ttSrc pre c post) data heap feeder).1 = .ok (pre ++ htmlEscape c ++ post) :=
  renderTop_of_renderIn 5 (by decide) (C02_text_tag_text_no_side_effect pre c post hp hpne hlast hq hqne hno) data heap feeder

-- non-vacuity: `pre = "a<"` (a lone `<` right in front of the tag), `post = ">b"` satisfy the hypotheses
example : LX.PlainL [97, 60] ∧ LX.PlainL [62, 98] ∧ ([97, 60] : Bytes).getD 1 0 ≠ 92 := by
  refine ⟨⟨?_, ?_⟩, ⟨?_, ?_⟩, by decide⟩
  · intro i hi; have : i < 2 := hi; rcases i with _|_|i <;> first | decide | omega
  · intro i; rcases i with _|_|i <;> first | decide | (intro h; have h1 := h.1; simp [List.getD_eq_getElem?_getD] at h1)
  · intro i hi; have : i < 2 := hi; rcases i with _|_|i <;> first | decide | omega
  · intro i; rcases i with _|_|i <;> first | decide | (intro h; have h1 := h.1; simp [List.getD_eq_getElem?_getD] at h1)

end Plush
