import PlushModel
import PlushProofs.Lib.LexerTotal
import PlushProofs.Lib.ParserTotalProof
import PlushProofs.Lib.ParserSteps
/-!
  C03 — parsing is total. Theorems over the model of lexer + parser (PlushModel/Lexer.lean,
  PlushModel/Parser.lean), which the `parse-tok` / `parse-text` correspondence streams tie to /repo.
-/
namespace Plush

/-- The token stream is total: `n` calls of `NextToken` give `n` tokens, whatever the input. -/
theorem C03_lexN_length (n : Nat) (l : LX) : (lexN n l).length = n :=
  lexN_length n l

/-- After the input is exhausted (outside a tag, NUL sentinel) the lexer returns EOF and stays put
    — `lexer.go:35-40`; this is what every parser loop relies on to stop. -/
theorem C03_lexer_eof_stable (l : LX) (h : l.inside = false) (hc : l.ch = 0) :
    l.nextToken = ({ type := .EOF, lit := [], line := l.line }, l) := by
  simp [LX.nextToken, h, hc]

/-- A comment is skipped up to `%>` *or EOF*: from an EOF token the comment loop returns at once, for any
    fuel ≥ 1. (On the unchanged tree `parseCommentLiteral` has no EOF test and `<% <%#` never returns: DESIGN §13.3.) -/
theorem C03_comment_stops_at_eof (fuel : Nat) (s : PS) (h : (P.tokAt s s.pos).type = .EOF) :
    (P.commentLoop (fuel + 1)).run s = .ok (some (.str (P.tokAt s s.pos) []), s) :=
  P.commentLoop_stops fuel s (.inr h)

/-- `parseCallExpression` on a missing left operand (`<% ( + (`) reports a syntax error and returns no node; so
    does `parseIndexExpression` (`C03_index_nil_left`). (On the unchanged tree both dereference nil: DESIGN §13.3.) -/
theorem C03_call_nil_left (fuel : Nat) (s : PS) :
    (P.runInfix (fuel + 1) .parseCallExpression none).run s =
      .ok (none, { s with errs := s.errs.push { line := some (P.tokAt s s.pos).line, kind := "nothing-to-call" } }) := by
  apply P.run_of_OK
  rw [P.runInfix_eq]
  wp_simp

theorem C03_index_nil_left (fuel : Nat) (s : PS) :
    (P.runInfix (fuel + 1) .parseIndexExpression none).run s =
      .ok (none, { s with errs := s.errs.push { line := some (P.tokAt s s.pos).line, kind := "nothing-to-index" } }) := by
  apply P.run_of_OK
  rw [P.runInfix_eq]
  wp_simp

/-! ### Theorem A (DESIGN §13.6) — the scanner is total on every byte string -/

/-- NO PANIC IN THE LEXER, for every input and any number of `NextToken` calls: no slice expression of
    `lexer.go` (`readIdentifier`, `readNumber`, `readString`, `readBString`, `readHTML`) is ever out of range. -/
theorem C03_lexer_never_out_of_range (input : Array UInt8) (n : Nat) : lexCrashed n (LX.new input) = false :=
  lexCrashed_false n _ (LX.new_wf input)

/-- NO HANG IN THE LEXER: every `NextToken` call keeps the state invariant and, unless the scan is over
    (NUL sentinel outside a tag, or past the input), consumes at least one byte. (That each scanning loop of
    `lexer.go` leaves because its guard is false, and not because the model's budget `size + 2` ran out, is
    said loop by loop by the `…_spec` lemmas of `Lib/LexerTotal.lean` and, for the text loop, by `readHTMLLoop_lands`;
    the composite readers — identifier, number, the two string forms — are the `…_scan` statements of `Lib/LexerCore.lean`.) -/
theorem C03_lexer_progress (l : LX) (w : l.WF) :
    l.nextToken.2.WF ∧ l.nextToken.2.input = l.input ∧ l.pos ≤ l.nextToken.2.pos ∧
      (¬ l.Done → l.pos < l.nextToken.2.pos) :=
  have h := LX.nextToken_spec l w
  ⟨h.1.wf, h.1.input, h.1.pos, h.2⟩

/-- THE STREAM ENDS: from token number `len(input) + 1` on, `NextToken` returns one and the same EOF token
    for ever — the fact every parser loop that tests for EOF relies on. -/
theorem C03_lexer_stream_ends (input : Array UInt8) (k : Nat) (hk : input.size + 1 ≤ k) :
    tokenAt k (LX.new input) = tokenAt (input.size + 1) (LX.new input) ∧ (tokenAt k (LX.new input)).type = .EOF :=
  stream_tail_eof input k hk

/-- The parser model reads the finite array `lexAll input` and repeats its last element: that is exactly the
    unbounded token stream of the lexer, at every index. -/
theorem C03_parser_reads_true_stream (input : Array UInt8) (i : Nat) :
    (lexAll input).getD i ((lexAll input).back?.getD { type := .EOF, lit := [], line := 1 }) = tokenAt i (LX.new input) :=
  lexAll_is_stream input i

-- non-vacuity: the invariant holds initially, and a state at the start of `<%= a %>` is not `Done`
example : (LX.new #[60, 37, 61, 32, 97, 32, 37, 62]).WF ∧ ¬ (LX.new #[60, 37, 61, 32, 97, 32, 37, 62]).Done := by
  refine ⟨LX.new_wf _, ?_⟩
  intro h
  rcases h with ⟨_, h⟩ | h
  · exact absurd h (by decide)
  · exact absurd h (by decide)

/-! ### Theorem B (DESIGN §13.6) — the parser terminates on every input -/

/-- PARSING IS TOTAL ON EVERY TOKEN STREAM that ends in EOF: the model of `parser.Parse` returns a program and
    an error list. Its recursion-depth budget (`parseFuel`, linear in the number of tokens) is never exhausted —
    `outOfFuel`, the model's stand-in for a hang or an unbounded recursion, is unreachable — because every cycle
    of the twenty mutually recursive parse functions consumes a token, and every loop stops at EOF. -/
theorem C03_parser_total_tokens (toks : Array Token)
    (h : (toks.back?.getD { type := .EOF, lit := [], line := 1 }).type = .EOF) :
    ∃ prog errs, parseToks toks = .ok (prog, errs) := by
  obtain ⟨r, hr⟩ := parseToks_total toks h
  exact ⟨r.1, r.2, hr⟩

/-- PARSING IS TOTAL ON EVERY SOURCE TEXT (lexer and parser together): for every byte string the model of
    `plush.Parse` yields a program or a list of syntax errors; never a crash, never a hang. -/
theorem C03_parse_total (src : Bytes) : ∃ prog errs, parseBytes src = .ok (prog, errs) := by
  obtain ⟨r, hr⟩ := parseBytes_total src
  exact ⟨r.1, r.2, hr⟩

end Plush
