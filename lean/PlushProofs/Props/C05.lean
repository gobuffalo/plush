import PlushModel
import PlushModel.Gen.EvalDispatch
import PlushProofs.Lib.EvalRun
/-!
  C05 — no silent failure. `Gen.tolerantOps`, `Gen.tolerantOnlyUnknownIdent` and `Gen.tolerantSites` are
  translated from compiler.go (toleratedOperandError and the three `err.(*ErrUnknownIdentifier)` guards) on every run.
-/
namespace Plush
open Gen EM

/-- the tolerance of the code is exactly the one the property licenses: an unknown identifier, as a
    condition or as an operand of ! == != && || — every other error check in those functions is strict -/
theorem C05_tolerance_exact :
    tolerantOps = [[61, 61], [33, 61], [124, 124], [38, 38]] ∧ tolerantOnlyUnknownIdent = true ∧
    tolerantSites = [("evalPrefixExpression", 1, 0), ("evalIfExpression", 1, 0), ("evalElseAndElseIfExpressions", 1, 0)] :=
  ⟨rfl, rfl, rfl⟩

/-- an operand error that is not an unknown identifier fails the whole infix expression, whatever the
    operator — including == != && || (the left operand; state changes so far are kept, nothing else runs) -/
theorem C05_infix_left_error (fuel : Nat) (op : Bytes) (l r : Option Expr) (s s1 : ES) (e : Err)
    (hl : evalExpr fuel l s = (.err e, s1)) (hd : e.direct = false) :
    evalInfix (fuel + 1) op l r s = (.err e, s1) := by
  simp only [evalInfix_succ, getS_bind, bind_err (operand_strict hl (.inr hd))]

/-- … and the right operand likewise, once the left one has been evaluated and did not short-circuit -/
theorem C05_infix_right_error (fuel : Nat) (op : Bytes) (l r : Option Expr) (s s1 s2 : ES) (v : Val) (e : Err)
    (hl : evalExpr fuel l s = (.ok v, s1)) (hr : evalExpr fuel r s1 = (.err e, s2)) (hd : e.direct = false)
    (hsc : ¬ (op = [38, 38] ∧ isTruthy v = false) ∧ ¬ (op = [124, 124] ∧ isTruthy v = true)) :
    evalInfix (fuel + 1) op l r s = (.err e, s2) := by
  have hand : (op == [38, 38] && !isTruthy v) = false := by
    cases ht : isTruthy v <;> simp_all
  have hor : (op == [124, 124] && isTruthy v) = false := by
    cases ht : isTruthy v <;> simp_all
  simp only [evalInfix_succ, getS_bind, bind_ok (operand_ok hl), hand, hor, Bool.false_eq_true, if_false,
    bind_err (operand_strict hr (.inr hd))]

/-- under an operator outside the tolerant list even an unknown identifier is an error -/
theorem C05_infix_unknown_not_tolerated (fuel : Nat) (op : Bytes) (l r : Option Expr) (s s1 : ES) (e : Err)
    (hl : evalExpr fuel l s = (.err e, s1)) (hop : op ∉ tolerantOps) :
    evalInfix (fuel + 1) op l r s = (.err e, s1) := by
  have : Gen.tolerantOps.contains op = false := by simpa using hop
  simp only [evalInfix_succ, getS_bind, bind_err (operand_strict hl (.inl this))]

/-- `!x`: only an unknown identifier is tolerated as the operand -/
theorem C05_prefix_error (fuel : Nat) (t : Token) (op : Bytes) (r : Option Expr) (s s1 : ES) (e : Err)
    (h : evalExpr fuel r s = (.err e, s1)) (hd : e.direct = false) :
    evalExpr (fuel + 1) (some (.pre t op r)) s = (.err e, s1) := by
  simp only [evalExpr_pre, getS_bind, bind_err (operand_strict h (.inr hd))]

/-- `if (x)`: only an unknown identifier is tolerated as the condition -/
theorem C05_if_error (fuel : Nat) (c : Option Expr) (bl : Block) (elifs els) (s s1 : ES) (e : Err)
    (h : evalExpr fuel c s = (.err e, s1)) (hd : e.direct = false) :
    evalIf (fuel + 1) c bl elifs els s = (.err e, s1) := by
  simp only [evalIf_succ, getS_bind, bind_err (operand_strict h (.inr hd))]

/-- a failing element fails the array literal / the argument list (nothing is skipped) -/
theorem C05_exprs_error (fuel : Nat) (x : Option Expr) (rest : List (Option Expr)) (s s1 : ES) (e : Err)
    (h : evalExpr fuel x s = (.err e, s1)) :
    evalExprs (fuel + 1) (x :: rest) s = (.err e, s1) := by
  rw [evalExprs]; exact bind_err h

/-- a failing statement fails its block: no partial result -/
theorem C05_block_error (fuel : Nat) (st : Stmt) (rest : List Stmt) (acc : List Val) (s s1 : ES) (e : Err)
    (h : evalStmt fuel st s = (.err e, s1)) :
    evalStmts (fuel + 1) (st :: rest) acc s = (.err e, s1) := by
  rw [evalStmts]; exact bind_err h

/-- `compile`: an error in a top-level output tag `<%= e %>` is the result of `compile` — carrying the line (of the
    statement blamed, else of the tag) and, through `{ er with … }`, the `errors.Is` chain — and the output
    accumulated so far (`out`) is dropped -/
theorem C05_compile_error (fuel : Nat) (t : Token) (e : Option Expr) (rest : List Stmt) (out : Bytes) (s s1 : ES) (er : Err)
    (h : evalExpr fuel e ({ s with curStmt := none }) = (.err er, s1)) :
    compileStmts (fuel + 1) (.ret true t e :: rest) out s
      = (.err { er with line := some (match s1.curStmt with | some l => l | none => t.line), direct := false }, s1) := by
  simp [compileStmts, bind, modifyS, attempt, h, getS, throwErr, Stmt.tok]
  cases s1.curStmt <;> rfl

/-- Every `fmt.Errorf` in the evaluator that is handed an error wraps it with %w (re-read from compiler.go,
    helper_context.go, partial_helper.go, template.go, plush.go and helpers/content on every run): the two sites are
    `compile` ("line N: %w") and the helper-call site ("could not call … function: %w"); everywhere else errors are
    returned as they are. So the cause chain survives to the caller (`errors.Is` / `errors.As`) — the model keeps
    `causes` through both wrappers (`C12_wrap_keeps_causes`, `C05_compile_error`). A wrapper that formats the
    error with %s or %v (seeded change C05-i) adds an entry with `false`. -/
theorem C05_error_wrappers_keep_the_cause :
    Gen.errorfSites = [("compiler.go:compile", true), ("compiler.go:evalCallExpression", true)] ∧
    ∀ p ∈ Gen.errorfSites, p.2 = true := by
  constructor
  · rfl
  · decide

end Plush
