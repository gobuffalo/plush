import PlushModel
import PlushProofs.Lib.PrattRoundTrip
import PlushProofs.Lib.EvalRun
/-!
  C06 — operators, precedence and associativity. The precedence table, the registrations of the parse functions, the
  five operator tables and the list of tolerant operators are TRANSLATED from /repo (Gen/Precedences.lean,
  Gen/ParseFns.lean, Gen/Operators.lean), so these theorems are re-proved against the source on every run.
-/
namespace Plush
open Gen EM

/-- documented order: ! > * / > + - > < <= > >= > == != ~= > && ||  (and call/index bind tightest) -/
theorem C06_table :
    P.precOf .ASTERISK = P.precOf .SLASH ∧ P.precOf .PLUS = P.precOf .MINUS ∧
    P.precOf .LT = P.precOf .LTEQ ∧ P.precOf .LT = P.precOf .GT ∧ P.precOf .LT = P.precOf .GTEQ ∧
    P.precOf .EQ = P.precOf .NOT_EQ ∧ P.precOf .EQ = P.precOf .MATCHES ∧ P.precOf .AND = P.precOf .OR ∧
    PREFIX > P.precOf .ASTERISK ∧ P.precOf .ASTERISK > P.precOf .PLUS ∧ P.precOf .PLUS > P.precOf .LT ∧
    P.precOf .LT > P.precOf .EQ ∧ P.precOf .EQ > P.precOf .AND ∧ P.precOf .AND > LOWEST ∧
    P.precOf .LPAREN > PREFIX ∧ P.precOf .LBRACKET > P.precOf .LPAREN := by decide

/-- closers, separators, `=` and atoms have the lowest precedence: they end an expression -/
theorem C06_non_operators_lowest :
    ∀ t ∈ [TT.RPAREN, .RBRACE, .RBRACKET, .COMMA, .COLON, .SEMICOLON, .E_END, .EOF, .ASSIGN, .IDENT, .INT, .STRING],
      P.precOf t = LOWEST := by decide

/-- the thirteen binary operators are registered as infix, `!` as prefix, `(` as grouping -/
theorem C06_registered :
    (∀ t ∈ [TT.PLUS, .MINUS, .SLASH, .ASTERISK, .EQ, .NOT_EQ, .MATCHES, .LT, .GT, .LTEQ, .GTEQ, .AND, .OR],
      P.lookupLast t infixFns = some .parseInfixExpression) ∧
    P.lookupLast .BANG prefixFns = some .parsePrefixExpression ∧
    P.lookupLast .LPAREN prefixFns = some .parseGroupedExpression := by decide

/-- integer operators: wrap-around + - *, truncated division with a zero test, the six comparisons -/
theorem C06_ops_int (l r : Int) :
    intsOperator [43] l r = .int (wrap64 (l + r)) ∧ intsOperator [45] l r = .int (wrap64 (l - r)) ∧
    intsOperator [42] l r = .int (wrap64 (l * r)) ∧
    intsOperator [47] l r = (if r == 0 then .divZero else .int (wrap64 (Int.tdiv l r))) ∧
    intsOperator [60] l r = .bool (decide (l < r)) ∧ intsOperator [60, 61] l r = .bool (decide (l ≤ r)) ∧
    intsOperator [62] l r = .bool (decide (l > r)) ∧ intsOperator [62, 61] l r = .bool (decide (l ≥ r)) ∧
    intsOperator [61, 61] l r = .bool (l == r) ∧ intsOperator [33, 61] l r = .bool (l != r) ∧
    intsOperator [126, 61] l r = .unknownOp ∧ intsOperator [38, 38] l r = .unknownOp := by
  and_intros <;> rfl

theorem C06_ops_float (l r : Dyadic) :
    floatsOperator [43] l r = .float (Dyadic.add l r) ∧ floatsOperator [45] l r = .float (Dyadic.sub l r) ∧
    floatsOperator [42] l r = .float (Dyadic.mul l r) ∧
    floatsOperator [47] l r = (if Dyadic.isZero r then .divZero else .floatDiv l r) ∧
    floatsOperator [60] l r = .bool (Dyadic.lt l r) ∧ floatsOperator [62] l r = .bool (Dyadic.lt r l) ∧
    floatsOperator [60, 61] l r = .bool (!Dyadic.lt r l) ∧ floatsOperator [62, 61] l r = .bool (!Dyadic.lt l r) ∧
    floatsOperator [61, 61] l r = .bool (l == r) ∧ floatsOperator [33, 61] l r = .bool (l != r) := by
  and_intros <;> rfl

/-- strings: `+` concatenates, comparisons are bytewise, no `-` `*` `/` (a non-string right operand of `+` reaches
    this table in its printed form: `applyInfix`) -/
theorem C06_ops_string (l r : Bytes) :
    stringsOperator [43] l r = .str (l ++ r) ∧
    stringsOperator [60] l r = .bool (bytesLt l r) ∧ stringsOperator [62] l r = .bool (bytesLt r l) ∧
    stringsOperator [60, 61] l r = .bool (!bytesLt r l) ∧ stringsOperator [62, 61] l r = .bool (!bytesLt l r) ∧
    stringsOperator [61, 61] l r = .bool (l == r) ∧ stringsOperator [33, 61] l r = .bool (l != r) ∧
    stringsOperator [45] l r = .unknownOp ∧ stringsOperator [42] l r = .unknownOp ∧ stringsOperator [47] l r = .unknownOp := by
  and_intros <;> rfl

theorem C06_ops_bool (l r : Bool) :
    boolsOperator [61, 61] l r = .bool (l == r) ∧ boolsOperator [33, 61] l r = .bool (l != r) ∧
    boolsOperator [60] l r = .unknownOp ∧ boolsOperator [45] l r = .unknownOp := by
  and_intros <;> rfl

theorem C06_ops_nil (bn : Bool) :
    nilsOperator [61, 61] bn = .bool bn ∧ nilsOperator [33, 61] bn = .bool (!bn) ∧
    nilsOperator [43] bn = .unknownOp ∧ nilsOperator [60] bn = .unknownOp := by
  and_intros <;> rfl

/-- division by zero and unknown operators are errors -/
theorem C06_errors_are_errors (k : String) (s : ES) :
    applyOpOut .divZero k s = (.err { kind := "division-by-zero" }, s) ∧
    applyOpOut .unknownOp k s = (.err { kind := "unknown-operator-" ++ k }, s) := by
  and_intros <;> rfl

/-- an int operand on the left and a value that is neither nil nor an int on the right: every operator of the tables
    (all but `&&`, `||`, which never get here) is an operand-type mismatch -/
theorem mismatch_int_left {fuel : Nat} {op : Bytes} {l r : Option Expr} {s s1 s2 : ES} {i : Int} {rv : Val}
    (hl : evalExpr fuel l s = (.ok (.int i), s1)) (hr : evalExpr fuel r s1 = (.ok rv, s2))
    (hnil : rv.isNil = false) (hint : ∀ j, rv ≠ .int j) (h1 : op ≠ [38, 38]) (h2 : op ≠ [124, 124]) :
    evalInfix (fuel + 1) op l r s = (.err { kind := "unable-to-operate" }, s2) := by
  rw [evalInfix_values hl hr h1 h2]
  cases rv <;> first | rfl | exact absurd rfl (hint _) | cases hnil

/-- operand-type mismatch is an error, shown for the int-left row and `<`: an int `<` a value that is neither nil nor
    an int (`string + x` is the documented exception) -/
theorem C06_mismatch_int_left (fuel : Nat) (l r : Option Expr) (s s1 s2 : ES) (i : Int) (rv : Val)
    (hl : evalExpr fuel l s = (.ok (.int i), s1)) (hr : evalExpr fuel r s1 = (.ok rv, s2))
    (hnil : rv.isNil = false) (hint : ∀ j, rv ≠ .int j) :
    evalInfix (fuel + 1) [60] l r s = (.err { kind := "unable-to-operate" }, s2) :=
  mismatch_int_left hl hr hnil hint (by decide) (by decide)

/-- `&&` and `||` short-circuit: a falsy (truthy) left operand decides the result and the right operand
    is not evaluated: it does not occur on the right-hand side and the state is the one after the left -/
theorem C06_short_circuit_and (fuel : Nat) (l r : Option Expr) (s s1 : ES) (v : Val)
    (hl : evalExpr fuel l s = (.ok v, s1)) (hf : isTruthy v = false) :
    evalInfix (fuel + 1) [38, 38] l r s = (.ok (.bool false), s1) := by
  simp only [evalInfix_succ, getS_bind, bind_ok (operand_ok hl), hf]; rfl

theorem C06_short_circuit_or (fuel : Nat) (l r : Option Expr) (s s1 : ES) (v : Val)
    (hl : evalExpr fuel l s = (.ok v, s1)) (ht : isTruthy v = true) :
    evalInfix (fuel + 1) [124, 124] l r s = (.ok (.bool true), s1) := by
  simp only [evalInfix_succ, getS_bind, bind_ok (operand_ok hl), ht]; rfl

-- integer division truncates towards zero (Go), e.g. -7 / 2 = -3, and MinInt64 / -1 wraps
example : intsOperator [47] (-7) 2 = .int (-3) ∧ intsOperator [47] 7 (-2) = .int (-3) ∧
    intsOperator [47] minInt (-1) = .int minInt ∧ intsOperator [47] 1 0 = .divZero := by decide

/-- COMPOSITIONALITY: a binary node evaluates its left operand, then its right operand (in the state the left
    one left), and applies the operator's table entry to the two values, for every operator except the
    short-circuiting `&&` / `||` (theorems `C06_short_circuit_*`). With Theorem C (the tree IS the documented
    grouping) and the tables `C06_ops_*` this is the reference evaluator of the property. -/
theorem C06_binary_compositional (fuel : Nat) (t : Token) (op : Bytes) (l r : Option Expr) (s s1 s2 : ES) (lv rv : Val)
    (hl : evalExpr fuel l s = (.ok lv, s1)) (hr : evalExpr fuel r s1 = (.ok rv, s2))
    (hop : op ≠ [38, 38] ∧ op ≠ [124, 124]) :
    evalExpr (fuel + 2) (some (.inf t op l r)) s = applyInfix op lv rv s2 := by
  rw [evalExpr]; exact evalInfix_values hl hr hop.1 hop.2

/-- … and when `&&` (`||`) does not short-circuit, its value is the truth value of the right operand -/
theorem C06_logical_right (fuel : Nat) (t : Token) (l r : Option Expr) (s s1 s2 : ES) (lv rv : Val)
    (hl : evalExpr fuel l s = (.ok lv, s1)) (hr : evalExpr fuel r s1 = (.ok rv, s2)) :
    (isTruthy lv = true → evalExpr (fuel + 2) (some (.inf t [38, 38] l r)) s = (.ok (.bool (isTruthy rv)), s2)) ∧
    (isTruthy lv = false → evalExpr (fuel + 2) (some (.inf t [124, 124] l r)) s = (.ok (.bool (isTruthy rv)), s2)) := by
  constructor <;> intro h <;>
    simp only [evalExpr, evalInfix_succ, getS_bind, bind_ok (operand_ok hl), h] <;>
    exact (bind_ok (operand_ok hr)).trans rfl

section Pratt
open P

/-- PRECEDENCE AND ASSOCIATIVITY, FOR EVERY EXPRESSION TREE (Theorem C). Take any tree of the fragment `PE`: atoms
    (identifiers, integer, string and boolean literals), registered binary operators, prefix operators (`!`, `-`), index
    expressions (any expression as the index; an atom, an index, a call or an array literal as the indexed operand),
    calls of a plain function name and array literals with ANY number of arguments / elements. Print it with the minimal
    parentheses that the precedence table and LEFT associativity require (`pr`: left operand at the operator's level,
    right operand one level tighter, the operand of a prefix operator tighter than every binary operator) and put the
    tokens anywhere in a token array, followed by a token of lowest binding power that is none of `=`, `.`, `{`. Then
    `parseExpression` at the lowest precedence returns exactly that tree, leaves the cursor on the expression's last
    token and changes nothing else. Since the grouping of the printed form is unique, the parser's grouping IS the
    documented one: tighter operators first, equal levels left to right, `&&`/`||` on one level (table `C06_table`). -/
theorem C06_pratt_round_trip (e : PE) (s : PS) (f : Nat) (hwf : e.WF) (eo : EofOK s)
    (hat : At s s.pos (pr (Gen.LOWEST + 1) e))
    (hnext : precOf (tokAt s (s.pos + (pr (Gen.LOWEST + 1) e).length)).type = Gen.LOWEST)
    (hna : (tokAt s (s.pos + (pr (Gen.LOWEST + 1) e).length)).type ≠ .ASSIGN)
    (hnd : (tokAt s (s.pos + (pr (Gen.LOWEST + 1) e).length)).type ≠ .DOT)
    (hnb : (tokAt s (s.pos + (pr (Gen.LOWEST + 1) e).length)).type ≠ .LBRACE)
    (hf : 14 + P.C * rem s ≤ f) :
    parseExpression f Gen.LOWEST s = .ok (some e.toExpr, s.at (s.pos + (pr (Gen.LOWEST + 1) e).length - 1)) :=
  parse_print e s f hwf eo hat hnext hna hnd hnb hf

/-- flat left-associative chain: a o1 b o2 c with equal binding power prints without parentheses as the LEFT-nested tree -/
theorem C06_print_left_assoc (o1 o2 lp rp a b c : Token) (xa xb xc : Expr) (h : precOf o1.type = precOf o2.type)
    (hl : Gen.LOWEST < precOf o2.type) :
    pr (Gen.LOWEST + 1) (.bin o2 lp rp (.bin o1 lp rp (.atom a xa) (.atom b xb)) (.atom c xc)) = [a, o1, b, o2, c] := by
  have h1 : ¬ precOf o2.type < Gen.LOWEST + 1 := by omega
  have h2 : ¬ precOf o1.type < precOf o2.type := by omega
  simp [pr, h1, h2]

/-- the RIGHT-nested tree of the same operators needs parentheses -/
theorem C06_print_right_nested (o1 o2 lp rp a b c : Token) (xa xb xc : Expr) (h : precOf o1.type = precOf o2.type)
    (hl : Gen.LOWEST < precOf o2.type) :
    pr (Gen.LOWEST + 1) (.bin o1 lp rp (.atom a xa) (.bin o2 lp rp (.atom b xb) (.atom c xc))) = [a, o1, lp, b, o2, c, rp] := by
  have h1 : ¬ precOf o1.type < Gen.LOWEST + 1 := by omega
  have h2 : precOf o2.type < precOf o1.type + 1 := by omega
  simp [pr, h1, h2]

/-- a tighter operator on the right groups first: a o1 b o2 c with prec o1 < prec o2 is a o1 (b o2 c) -/
theorem C06_print_tighter_right (o1 o2 lp rp a b c : Token) (xa xb xc : Expr) (h : precOf o1.type < precOf o2.type)
    (hl : Gen.LOWEST < precOf o1.type) :
    pr (Gen.LOWEST + 1) (.bin o1 lp rp (.atom a xa) (.bin o2 lp rp (.atom b xb) (.atom c xc))) = [a, o1, b, o2, c] := by
  have h1 : ¬ precOf o1.type < Gen.LOWEST + 1 := by omega
  have h2 : ¬ precOf o2.type < precOf o1.type + 1 := by omega
  simp [pr, h1, h2]

/-- a prefix operator binds tighter than every binary operator: `! a == b` is `(!a) == b` … -/
theorem C06_print_prefix_binds_tighter (o1 o2 lp rp a b : Token) (xa xb : Expr)
    (h2 : lookupLast o2.type Gen.infixFns = some .parseInfixExpression) (hl : Gen.LOWEST < precOf o2.type) :
    pr (Gen.LOWEST + 1) (.bin o2 lp rp (.pre o1 (.atom a xa)) (.atom b xb)) = [o1, a, o2, b] := by
  have h1 : ¬ precOf o2.type < Gen.LOWEST + 1 := by omega
  simp [pr, h1]

/-- … while negating the comparison needs parentheses: `! (a == b)` -/
theorem C06_print_prefix_of_binary (o1 o2 lp rp a b : Token) (xa xb : Expr)
    (h2 : lookupLast o2.type Gen.infixFns = some .parseInfixExpression) :
    pr (Gen.LOWEST + 1) (.pre o1 (.bin o2 lp rp (.atom a xa) (.atom b xb))) = [o1, lp, a, o2, b, rp] := by
  have := infix_prec_le h2
  have h1 : precOf o2.type < Gen.PREFIX + 1 := by omega
  simp [pr, h1]

/-! non-vacuity: `1 - 2 - 3 %>` meets every hypothesis of the round trip and parses as `(1 - 2) - 3` -/
def tI (n : UInt8) : Token := { type := .INT, lit := [n], line := 1 }
def tMinus : Token := { type := .MINUS, lit := [45], line := 1 }
def tStar : Token := { type := .ASTERISK, lit := [42], line := 1 }
def tEnd : Token := { type := .E_END, lit := [37, 62], line := 1 }
def tEOF : Token := { type := .EOF, lit := [], line := 1 }
def sDemo : PS := { toks := #[tI 49, tMinus, tI 50, tMinus, tI 51, tEnd], eof := tEOF }

def tLP : Token := { type := .LPAREN, lit := [40], line := 1 }
def tRP : Token := { type := .RPAREN, lit := [41], line := 1 }
def a1 : PE := .atom (tI 49) (.int (tI 49) 1)
def a2 : PE := .atom (tI 50) (.int (tI 50) 2)
def a3 : PE := .atom (tI 51) (.int (tI 51) 3)
def eDemo : PE := .bin tMinus tLP tRP (.bin tMinus tLP tRP a1 a2) a3

example : parseExpression 400 Gen.LOWEST sDemo = .ok (some eDemo.toExpr, sDemo.at 4) := by
  have hwf : eDemo.WF := by
    refine ⟨by decide, by decide, rfl, rfl, ⟨by decide, by decide, rfl, rfl, ?_, ?_⟩, ?_⟩ <;> rfl
  exact parse_print_of eDemo sDemo 400 (ts := [tI 49, tMinus, tI 50, tMinus, tI 51]) (by apply C06_print_left_assoc <;> decide)
    hwf rfl (by unfold At; decide) (by unfold Stops NoSuffix; decide) (by decide)

/-! non-vacuity for index expressions: `- a[1 - 2][3] * b %>` parses as `(-(a[1 - 2][3])) * b` -/
def tId (c : UInt8) : Token := { type := .IDENT, lit := [c], line := 1 }
def tLB : Token := { type := .LBRACKET, lit := [91], line := 1 }
def tRB : Token := { type := .RBRACKET, lit := [93], line := 1 }
def aA : PE := .atom (tId 97) (.ident { tok := tId 97, segs := [[97]] })
def aB : PE := .atom (tId 98) (.ident { tok := tId 98, segs := [[98]] })
def eIdx : PE := .bin tStar tLP tRP (.pre tMinus (.idx tLB tRB (.idx tLB tRB aA (.bin tMinus tLP tRP a1 a2)) a3)) aB
def sIdx : PS := { toks := #[tMinus, tId 97, tLB, tI 49, tMinus, tI 50, tRB, tLB, tI 51, tRB, tStar, tId 98, tEnd], eof := tEOF }

example : parseExpression 1000 Gen.LOWEST sIdx = .ok (some eIdx.toExpr, sIdx.at 11) := by
  have hwf : eIdx.WF := by
    refine ⟨by decide, by decide, rfl, rfl, ⟨by decide, rfl, rfl, rfl, ⟨rfl, rfl, rfl, ?_, ⟨by decide, by decide, rfl, rfl, ?_, ?_⟩⟩, ?_⟩, ?_⟩ <;> rfl
  exact parse_print_of eIdx sIdx 1000
    (ts := [tMinus, tId 97, tLB, tI 49, tMinus, tI 50, tRB, tLB, tI 51, tRB, tStar, tId 98]) (by decide)
    hwf rfl (by unfold At; decide) (by unfold Stops NoSuffix; decide) (by decide)

/-! non-vacuity for calls: `f(1 - 2, a[3], g())[1] * b %>` parses as `(f((1 - 2), a[3], g())[1]) * b` -/
def tComma : Token := { type := .COMMA, lit := [44], line := 1 }
def cG : PE := .call0 (tId 103) tLP tRP
def cF : PE := .call (tId 102) tLP tRP (.acons (.bin tMinus tLP tRP a1 a2) tComma (.acons (.idx tLB tRB aA a3) tComma (.aone cG)))
def eCall : PE := .bin tStar tLP tRP (.idx tLB tRB cF a1) aB
def sCall : PS := { toks := #[tId 102, tLP, tI 49, tMinus, tI 50, tComma, tId 97, tLB, tI 51, tRB, tComma, tId 103, tLP, tRP, tRP,
    tLB, tI 49, tRB, tStar, tId 98, tEnd], eof := tEOF }

example : parseExpression 2000 Gen.LOWEST sCall = .ok (some eCall.toExpr, sCall.at 19) := by
  have hwf : eCall.WF := by
    refine ⟨by decide, by decide, rfl, rfl, ⟨rfl, rfl, rfl, ⟨rfl, by decide, rfl, rfl, ?_⟩, rfl⟩, rfl⟩
    refine ⟨⟨by decide, by decide, rfl, rfl, rfl, rfl⟩, rfl, ⟨rfl, rfl, rfl, rfl, rfl⟩, rfl, ?_⟩
    exact ⟨rfl, by decide, rfl, rfl⟩
  exact parse_print_of eCall sCall 2000
    (ts := [tId 102, tLP, tI 49, tMinus, tI 50, tComma, tId 97, tLB, tI 51, tRB, tComma, tId 103, tLP, tRP, tRP, tLB, tI 49, tRB,
      tStar, tId 98]) (by decide)
    hwf rfl (by unfold At; decide) (by unfold Stops NoSuffix; decide) (by decide)

/-! non-vacuity for array literals: `[1, a[2], g()][1] - 3 %>` parses as `([1, a[2], g()][1]) - 3` -/
def eArr : PE := .bin tMinus tLP tRP (.idx tLB tRB (.arr tLB tRB (.acons a1 tComma (.acons (.idx tLB tRB aA a2) tComma (.aone cG)))) a1) a3
def sArrToks : Array Token := #[tLB, tI 49, tComma, tId 97, tLB, tI 50, tRB, tComma, tId 103, tLP, tRP, tRB, tLB, tI 49, tRB,
  tMinus, tI 51, tEnd]
def sArr : PS := { toks := sArrToks, eof := tEOF }

example : parseExpression 2000 Gen.LOWEST sArr = .ok (some eArr.toExpr, sArr.at 16) := by
  have hwf : eArr.WF := by
    refine ⟨by decide, by decide, rfl, rfl, ⟨rfl, rfl, rfl, ⟨rfl, rfl, ?_⟩, rfl⟩, rfl⟩
    exact ⟨rfl, rfl, ⟨rfl, rfl, rfl, rfl, rfl⟩, rfl, ⟨rfl, by decide, rfl, rfl⟩⟩
  exact parse_print_of eArr sArr 2000
    (ts := [tLB, tI 49, tComma, tId 97, tLB, tI 50, tRB, tComma, tId 103, tLP, tRP, tRB, tLB, tI 49, tRB, tMinus, tI 51]) (by decide)
    hwf rfl (by unfold At; decide) (by unfold Stops NoSuffix; decide) (by decide)

end Pratt

end Plush
