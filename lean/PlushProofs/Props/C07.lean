import PlushModel
import PlushProofs.Lib.EvalRun
/-!
  C07 — if / else-if / else renders exactly the first truthy branch; truthiness is uniform.
  `isTruthy` is the generated `Gen.isTruthyView` (translated from compiler.go on every run) applied to
  the value's view; the chain theorems are about the model of evalIfExpression /
  evalElseAndElseIfExpressions (PlushModel/Eval.lean), tied to /repo by the `render-gen` stream.
-/
namespace Plush
open EM

/-- the falsy list of the property statement: nil, false, "", empty HTML — and a typed nil pointer (unknown
    identifiers evaluate to nil at the tolerant sites) -/
def truthySpec : Val → Bool
  | .nil => false
  | .bool v => v
  | .str s => s != []
  | .html s => s != []
  | .ptr _ none => false        -- a typed nil pointer
  | _ => true

/-- `isTruthy` — the type switch of compiler.go as translated — is `truthySpec`, on every value of the universe -/
theorem C07_truthy (v : Val) : isTruthy v = truthySpec v := by
  cases v with
  | str s | html s => cases s <;> rfl
  | ptr _ t => cases t <;> rfl
  | _ => rfl

/-- 0, 0.0 and collections (which the view does not look into: also empty ones) are truthy -/
theorem C07_zero_and_empty_truthy (a : Nat) :
    isTruthy (.int 0) = true ∧ isTruthy (.list .any a) = true ∧ isTruthy (.map .string .any a) = true ∧
    isTruthy (.ilist []) = true ∧ isTruthy (.float ⟨0, 0⟩) = true := by
  simp [isTruthy, Val.tview, Gen.isTruthyView]

/-- what a condition contributes: its value, with an unknown identifier counting as nil -/
def condValue (r : R Val) : Option Val :=
  match r with
  | .ok v => some v
  | .err e => if e.direct then some .nil else none
  | .fatal _ => none

/-- the state after a condition: the one its evaluation left, except that when an unknown identifier is forgiven the
    statement blamed before is blamed again (`c.curStmt = cur`) -/
def condState (s : ES) (r : R Val) (s' : ES) : ES :=
  match r with
  | .err e => if e.direct then { s' with curStmt := s.curStmt } else s'
  | _ => s'

theorem operand_cond {m : EM Val} {s s' : ES} {res : R Val} {v : Val}
    (h : m s = (res, s')) (hv : condValue res = some v) :
    operand s.curStmt true m s = (.ok v, condState s res s') := by
  cases res with
  | ok a => cases hv; exact operand_ok h
  | err e =>
    rw [operand_err h]
    cases hd : e.direct <;> simp_all [condValue, condState]
  | fatal f => cases hv

/-- `!e`: the negation of the operand's truth value (unknown identifier = nil = falsy) -/
theorem C07_bang (fuel : Nat) (t : Token) (r : Option Expr) (s s' : ES) (res : R Val) (v : Val)
    (h : evalExpr fuel r s = (res, s')) (hv : condValue res = some v) :
    evalExpr (fuel + 1) (some (.pre t (b "!") r)) s = (.ok (.bool (!truthySpec v)), condState s res s') := by
  simp only [evalExpr_pre, getS_bind, bind_ok (operand_cond h hv), ← C07_truthy]; rfl

/-- `if (c) {…}` takes the then-block exactly when the condition is truthy -/
theorem C07_if_true (fuel : Nat) (c : Option Expr) (bl : Block) (elifs els) (s s' : ES) (res : R Val) (v : Val)
    (h : evalExpr fuel c s = (res, s')) (hv : condValue res = some v) (ht : truthySpec v = true) :
    evalIf (fuel + 1) c bl elifs els s = evalBlock fuel bl (condState s res s') := by
  simp only [evalIf_succ, getS_bind, bind_ok (operand_cond h hv), C07_truthy, ht, if_true]

theorem C07_if_false (fuel : Nat) (c : Option Expr) (bl : Block) (elifs els) (s s' : ES) (res : R Val) (v : Val)
    (h : evalExpr fuel c s = (res, s')) (hv : condValue res = some v) (ht : truthySpec v = false) :
    evalIf (fuel + 1) c bl elifs els s = evalElifs fuel elifs els (condState s res s') := by
  simp only [evalIf_succ, getS_bind, bind_ok (operand_cond h hv), C07_truthy, ht, Bool.false_eq_true, if_false]

theorem evalElifs_true (fuel : Nat) (t : Token) (c : Option Expr) (bl : Block) (rest els) (s s' : ES) (res : R Val) (v : Val)
    (h : evalExpr fuel c s = (res, s')) (hv : condValue res = some v) (ht : truthySpec v = true) :
    evalElifs (fuel + 1) ((t, c, bl) :: rest) els s = evalBlock fuel bl (condState s res s') := by
  simp only [evalElifs_cons, getS_bind, bind_ok (operand_cond h hv), C07_truthy, ht, if_true]

theorem evalElifs_false (fuel : Nat) (t : Token) (c : Option Expr) (bl : Block) (rest els) (s s' : ES) (res : R Val) (v : Val)
    (h : evalExpr fuel c s = (res, s')) (hv : condValue res = some v) (ht : truthySpec v = false) :
    evalElifs (fuel + 1) ((t, c, bl) :: rest) els s = evalElifs fuel rest els (condState s res s') := by
  simp only [evalElifs_cons, getS_bind, bind_ok (operand_cond h hv), C07_truthy, ht, Bool.false_eq_true, if_false]

/-- the conditions of the chain, evaluated in order from `s`, are all falsy and leave `s'`; the `k`-th is evaluated with
    the fuel `evalElifs` gives it, `k + 1` below the chain's -/
inductive AllFalsy : Nat → List (Token × Option Expr × Block) → ES → ES → Prop
  | nil (fuel s) : AllFalsy fuel [] s s
  | cons (fuel t c bl rest s s1 s' res v) :
      evalExpr fuel c s = (res, s1) → condValue res = some v → truthySpec v = false →
      AllFalsy fuel rest (condState s res s1) s' → AllFalsy (fuel + 1) ((t, c, bl) :: rest) s s'

theorem evalElifs_skip {n : Nat} {pre : List (Token × Option Expr × Block)} {s s1 : ES} (hf : AllFalsy n pre s s1) :
    ∀ (fuel : Nat) (post els), n = fuel + pre.length →
      evalElifs n (pre ++ post) els s = evalElifs fuel post els s1 := by
  induction hf with
  | nil => intro fuel post els hn; subst hn; rfl
  | cons f t c bl rest s sm s' res v hx hvx htx _ ih =>
    intro fuel post els hn
    rw [List.cons_append, evalElifs_false f t c bl _ els s sm res v hx hvx htx]
    exact ih fuel post els (by simp at hn; omega)

/-- the chain: if the else-if conditions before position k are falsy and the k-th is truthy, the chain
    evaluates to exactly the k-th block — whatever follows (later conditions are not evaluated: they do
    not occur in the right-hand side), for chains of any length -/
theorem C07_chain_first (pre : List (Token × Option Expr × Block)) :
    ∀ (fuel : Nat) (t : Token) (c : Option Expr) (bl : Block) (post els) (s s1 s2 : ES) (res : R Val) (v : Val),
    AllFalsy (fuel + pre.length + 1) pre s s1 →
    evalExpr fuel c s1 = (res, s2) → condValue res = some v → truthySpec v = true →
    evalElifs (fuel + pre.length + 1) (pre ++ (t, c, bl) :: post) els s = evalBlock fuel bl (condState s1 res s2) := by
  intro fuel t c bl post els s s1 s2 res v hf h hv ht
  rw [evalElifs_skip hf (fuel + 1) _ els (by omega), evalElifs_true fuel t c bl post els s1 s2 res v h hv ht]

/-- … and when every condition is falsy the else block (or nothing) is the result -/
theorem C07_chain_none (elifs : List (Token × Option Expr × Block)) :
    ∀ (fuel : Nat) (els : Option Block) (s s1 : ES), AllFalsy (fuel + elifs.length + 1) elifs s s1 →
    evalElifs (fuel + elifs.length + 1) elifs els s =
      (match els with | some eb => evalBlock fuel eb s1 | none => (.ok .nil, s1)) := by
  intro fuel els s s1 hf
  have := evalElifs_skip hf (fuel + 1) [] els (by omega)
  rw [List.append_nil] at this
  rw [this]
  cases els <;> rw [evalElifs] <;> rfl

end Plush
