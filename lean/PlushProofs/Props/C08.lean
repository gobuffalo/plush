import PlushModel
import PlushProofs.Lib.ParserLoopFlag
import PlushProofs.Lib.EvalRun
/-!
  C08 — for loops visit every element once, in order; break/continue mean what they say.
  Theorems about `forItems` / `forRanger` / `evalStmts` (models of evalForExpression's three loops and of
  evalBlockStatement), tied to /repo by the `render-gen` stream; the parser's loop-state tracking
  (break/continue accepted anywhere inside a loop body) is in PlushModel/Parser.lean, tied by `parse-tok`, and that
  no parse function leaves the flag changed is `loop_flag_scoped` (`Lib/ParserLoopFlag.lean`), from which the four
  parser theorems below follow.
-/
namespace Plush
open EM

def iterStart (key val : Bytes) (k v : Val) : EM Unit := do ctxSet key k; ctxSet val v

theorem forItems_cons (fuel : Nat) (key val : Bytes) (block : Block) (k v : Val) (rest : List (Val × Val)) (ret : List Val) :
    forItems (fuel + 1) key val block ((k, v) :: rest) ret =
      (do iterStart key val k v; evalBlock fuel block) >>= fun res =>
        match res with
        | .cont vs => forItems fuel key val block rest (ret ++ [.ilist vs])
        | .brk vs => pure (.ilist (ret ++ [.ilist vs]))
        | other => forItems fuel key val block rest (ret ++ [other]) := by
  rw [forItems]; rfl

/-- a normal result is appended and the loop goes on with the NEXT element (index order: the list is
    walked front to back) -/
theorem C08_step_normal (fuel : Nat) (key val : Bytes) (block : Block) (k v : Val) (rest : List (Val × Val))
    (ret : List Val) (s s1 : ES) (res : Val)
    (hb : (do iterStart key val k v; evalBlock fuel block) s = (.ok res, s1))
    (hc : ∀ vs, res ≠ .cont vs) (hk : ∀ vs, res ≠ .brk vs) :
    forItems (fuel + 1) key val block ((k, v) :: rest) ret s = forItems fuel key val block rest (ret ++ [res]) s1 := by
  rw [forItems_cons, bind_ok hb]
  split
  · exact absurd rfl (hc _)
  · exact absurd rfl (hk _)
  · rfl

/-- `continue` ends only the current iteration and keeps what it had produced -/
theorem C08_step_continue (fuel : Nat) (key val : Bytes) (block : Block) (k v : Val) (rest : List (Val × Val))
    (ret vs : List Val) (s s1 : ES)
    (hb : (do iterStart key val k v; evalBlock fuel block) s = (.ok (.cont vs), s1)) :
    forItems (fuel + 1) key val block ((k, v) :: rest) ret s =
      forItems fuel key val block rest (ret ++ [.ilist vs]) s1 := by
  rw [forItems_cons, bind_ok hb]

/-- `break` ends the loop — the remaining elements are not visited — and keeps what the iteration had produced -/
theorem C08_step_break (fuel : Nat) (key val : Bytes) (block : Block) (k v : Val) (rest : List (Val × Val))
    (ret vs : List Val) (s s1 : ES)
    (hb : (do iterStart key val k v; evalBlock fuel block) s = (.ok (.brk vs), s1)) :
    forItems (fuel + 1) key val block ((k, v) :: rest) ret s = (.ok (.ilist (ret ++ [.ilist vs])), s1) := by
  rw [forItems_cons, bind_ok hb]; rfl

/-- no elements (or none left): the accumulated per-iteration results, in order -/
theorem C08_done (fuel : Nat) (key val : Bytes) (block : Block) (ret : List Val) (s : ES) :
    forItems (fuel + 1) key val block [] ret s = (.ok (.ilist ret), s) := by
  rw [forItems]; rfl

/-- inside a block, `continue` / `break` stop the block at once and carry what the block had produced -/
theorem C08_block_continue (fuel : Nat) (st : Stmt) (rest : List Stmt) (acc vs : List Val) (s s1 : ES)
    (h : evalStmt fuel st s = (.ok (.cont vs), s1)) :
    evalStmts (fuel + 1) (st :: rest) acc s = (.ok (.cont (acc ++ vs)), s1) := by
  rw [evalStmts, bind_ok h]; rfl

theorem C08_block_break (fuel : Nat) (st : Stmt) (rest : List Stmt) (acc vs : List Val) (s s1 : ES)
    (h : evalStmt fuel st s = (.ok (.brk vs), s1)) :
    evalStmts (fuel + 1) (st :: rest) acc s = (.ok (.brk (acc ++ vs)), s1) := by
  rw [evalStmts, bind_ok h]; rfl

/-- the counter iterators (`range` / `between` / `until`): the key is the running count, one up per element (`forBody`
    starts it at 0), the value what `Next` returned -/
theorem C08_ranger_step (fuel : Nat) (key val : Bytes) (block : Block) (rg rg' : Gen.Ranger) (x : Int) (i : Nat)
    (ret : List Val) (s : ES) (hn : Gen.Helpers.next rg = (rg', some x)) :
    forRanger (fuel + 1) key val block rg i ret s =
      (do
        ctxSet key (.int i); ctxSet val (.int x)
        let res ← evalBlock fuel block
        match res with
        | .cont vs => forRanger fuel key val block rg' (i + 1) (ret ++ [Val.ilist vs])
        | .brk vs => pure (Val.ilist (ret ++ [Val.ilist vs]))
        | other => forRanger fuel key val block rg' (i + 1) (ret ++ [other])) s := by
  simp [forRanger, hn]
  rfl

theorem C08_ranger_done (fuel : Nat) (key val : Bytes) (block : Block) (rg rg' : Gen.Ranger) (i : Nat)
    (ret : List Val) (s : ES) (hn : Gen.Helpers.next rg = (rg', none)) :
    forRanger (fuel + 1) key val block rg i ret s = (.ok (.ilist ret), s) := by
  rw [forRanger, hn]; rfl

/-- the parser comes back from a nested `for` with the enclosing loop state (fix b97505d), so `break` / `continue`
    after an inner loop are still inside the outer one -/
theorem C08_parser_restores_loop_state (fuel : Nat) (s : PS) (r : Option Expr) (s' : PS)
    (h : (P.runPrefix (fuel + 1) .parseForExpression).run s = .ok (r, s')) : s'.inFor = s.inFor :=
  (loop_flag_scoped (fuel + 1)).runPrefix s .parseForExpression r s' h

/-- `break` / `continue` are accepted anywhere inside a loop body, however nested — parser side. Whatever a statement
    contains (nested loops, function literals, blocks, constructs that fail half-way), the parser comes back from
    it with the `inForBlock` flag unchanged; so every statement of a loop body is parsed with the flag set, at
    any statement position (`Lib/ParserLoopFlag.lean`). -/
theorem C08_statement_keeps_loop_flag (fuel : Nat) (s s' : PS) (r : Option Stmt)
    (h : P.parseStatement fuel s = .ok (r, s')) : s'.inFor = s.inFor :=
  (loop_flag_scoped fuel).stmt s r s' h

theorem C08_block_keeps_loop_flag (fuel : Nat) (acc : List Stmt) (s s' : PS) (r : List Stmt)
    (h : P.blockLoop fuel acc s = .ok (r, s')) : s'.inFor = s.inFor :=
  (loop_flag_scoped fuel).blockLoop s acc r s' h

/-- … and an expression (where `for` and `fn` literals occur) leaves it unchanged too -/
theorem C08_expression_keeps_loop_flag (fuel prec : Nat) (s s' : PS) (r : Option Expr)
    (h : P.parseExpression fuel prec s = .ok (r, s')) : s'.inFor = s.inFor :=
  (loop_flag_scoped fuel).expr s prec r s' h

/-- a run of a loop: element by element, front to back; each body evaluation starts in the state the previous one
    left; a normal result is appended, `continue` appends what the iteration had produced and goes on, `break`
    appends what it had produced and ENDS the run (`visited` counts the elements whose body was evaluated) -/
inductive LoopRun (key val : Bytes) (block : Block) :
    Nat → List (Val × Val) → List Val → ES → List Val → ES → Nat → Prop
  | done (f : Nat) (ret : List Val) (s : ES) : LoopRun key val block (f + 1) [] ret s ret s 0
  | step (f : Nat) (k v : Val) (rest : List (Val × Val)) (ret out : List Val) (s s1 s2 : ES) (res : Val) (n : Nat)
      (hb : (do iterStart key val k v; evalBlock f block) s = (.ok res, s1))
      (hc : ∀ vs, res ≠ .cont vs) (hk : ∀ vs, res ≠ .brk vs)
      (hr : LoopRun key val block f rest (ret ++ [res]) s1 out s2 n) :
      LoopRun key val block (f + 1) ((k, v) :: rest) ret s out s2 (n + 1)
  | cont (f : Nat) (k v : Val) (rest : List (Val × Val)) (ret out vs : List Val) (s s1 s2 : ES) (n : Nat)
      (hb : (do iterStart key val k v; evalBlock f block) s = (.ok (.cont vs), s1))
      (hr : LoopRun key val block f rest (ret ++ [.ilist vs]) s1 out s2 n) :
      LoopRun key val block (f + 1) ((k, v) :: rest) ret s out s2 (n + 1)
  | brk (f : Nat) (k v : Val) (rest : List (Val × Val)) (ret vs : List Val) (s s1 : ES)
      (hb : (do iterStart key val k v; evalBlock f block) s = (.ok (.brk vs), s1)) :
      LoopRun key val block (f + 1) ((k, v) :: rest) ret s (ret ++ [.ilist vs]) s1 1

/-- the whole loop, for any number of elements: if the iterations go as a `LoopRun` describes, `forItems` returns
    exactly the accumulated per-iteration results, in order — one per element whose body was evaluated, no element
    visited twice, none skipped before a `break`, none visited after it -/
theorem C08_loop_is_its_run {key val : Bytes} {block : Block} {f : Nat} {items : List (Val × Val)}
    {ret out : List Val} {s s2 : ES} {n : Nat} (h : LoopRun key val block f items ret s out s2 n) :
    forItems f key val block items ret s = (.ok (.ilist out), s2) ∧ n ≤ items.length ∧
      ∃ results, out = ret ++ results ∧ results.length = n := by
  induction h with
  | done f ret s => exact ⟨C08_done f key val block ret s, by simp, [], by simp⟩
  | step f k v rest ret out s s1 s2 res n hb hc hk _ ih =>
    obtain ⟨h1, h2, rs, h3, h4⟩ := ih
    refine ⟨?_, by simp; omega, res :: rs, ?_, by simp [h4]⟩
    · rw [C08_step_normal f key val block k v rest ret s s1 res hb hc hk]; exact h1
    · rw [h3]; simp
  | cont f k v rest ret out vs s s1 s2 n hb _ ih =>
    obtain ⟨h1, h2, rs, h3, h4⟩ := ih
    refine ⟨?_, by simp; omega, .ilist vs :: rs, ?_, by simp [h4]⟩
    · rw [C08_step_continue f key val block k v rest ret vs s s1 hb]; exact h1
    · rw [h3]; simp
  | brk f k v rest ret vs s s1 hb =>
    exact ⟨C08_step_break f key val block k v rest ret vs s s1 hb, by simp, [.ilist vs], rfl, rfl⟩

/-- non-vacuity: a two-element loop with an empty body is such a run (two iterations, two results) -/
example (tk : Token) (s : ES) :
    let s1 : ES := { s with store := (s.store.set s.cur [107] (.int 0)).set s.cur [118] (.int 7) }
    let s2 : ES := { s1 with store := (s1.store.set s1.cur [107] (.int 1)).set s1.cur [118] (.int 8) }
    LoopRun [107] [118] (Block.mk tk []) 4 [(.int 0, .int 7), (.int 1, .int 8)] [] s [.ilist [], .ilist []] s2 2 := by
  intro s1 s2
  refine .step 3 (.int 0) (.int 7) _ [] _ s s1 s2 (.ilist []) 1 ?_ (by intro vs h; cases h) (by intro vs h; cases h)
    (.step 2 (.int 1) (.int 8) _ _ _ s1 s2 s2 (.ilist []) 0 ?_ (by intro vs h; cases h) (by intro vs h; cases h) (.done 1 _ _))
  · simp [iterStart, bind, ctxSet, modifyS, evalBlock, evalStmts, pure, s1]
  · simp [iterStart, bind, ctxSet, modifyS, evalBlock, evalStmts, pure, s1, s2]

end Plush
