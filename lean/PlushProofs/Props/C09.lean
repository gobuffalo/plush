import PlushModel
import PlushProofs.Lib.EvalKeepsCur
import PlushProofs.Lib.EvalKeepsTree
import PlushModel.Gen.EvalDispatch
import PlushProofs.Props.C10
/-!
  C09 — names bound inside for / function / partial / contentOf scopes never leak or clobber.
  Each of these constructs evaluates its body in a fresh child context and makes the caller's context
  current again afterwards — on success and on error. Writes (`let`, assignment, parameter binding) go
  to the current context only (`ctxSet`), and by C10_isolation a write to a child is invisible to its
  ancestors and siblings. Tied to /repo by the `render-gen` stream (nested for / fn / blkw / partial /
  contentFor with let, shadowing let and probes).
-/
namespace Plush
open EM

/-- the result is a value or a Go error: not out of fuel, not outside the model, not a crash -/
def settled {α} (r : R α) : Prop := ∀ f, r ≠ .fatal f

theorem settled.settledR {α} {r : R α} (h : settled r) : settledR r := by
  cases r <;> first | trivial | exact h _ rfl

theorem KeepsCur.restores {α} {m : EM α} (hm : KeepsCur m) {s s' : ES} {r : R α} (h : m s = (r, s')) (hs : settled r) :
    s'.cur = s.cur := by
  have := hm s; rw [h] at this; exact this hs.settledR

/-- the scope combinator every construct uses (Go: `octx := c.ctx; defer func() { c.ctx = octx }()`): whatever `m`
    does, afterwards the context that was current before is current again — on success and on error -/
theorem withCtx_restores {α} (c : Nat) (m : EM α) (s s' : ES) (r : R α)
    (h : withCtx c m s = (r, s')) (hs : settled r) : s'.cur = s.cur :=
  (kc_withCtx c m).restores h hs

/-- `for`: the body runs under `withCtx` on a fresh child; the caller's context is current again afterwards -/
theorem C09_for_restores (fuel : Nat) (key val : Bytes) (it : Option Expr) (bl : Option Block) (s s' : ES) (r : R Val)
    (h : evalFor (fuel + 1) key val it bl s = (r, s')) (hs : settled r) : s'.cur = s.cur :=
  ((allCur _).evalFor key val it bl).restores h hs

/-- user function call: parameters are bound and the body runs in a fresh child under `withCtx`; afterwards the
    caller's context is current again -/
theorem C09_userfn_restores (fuel : Nat) (ps : List Ident) (body : Block) (args : List (Option Expr))
    (s s1 s' : ES) (vals : List Val) (r : R Val) (hlen : ¬ args.length < ps.length)
    (ha : evalExprs fuel (args.take ps.length) s = (.ok vals, s1))
    (h : evalUserFn (fuel + 1) ps body args s = (r, s')) (hs : settled r) : s'.cur = s1.cur :=
  (((allCur _).evalUserFn ps body args).restores h hs).trans
    (((allCur _).evalExprs _).restores ha (fun _ e => by cases e)).symm

/-- block helpers with their own context (`BlockWith`, used by contentOf / contentFor / blkw): if the
    block evaluates (to a value or an error) the evaluator's context is the caller's again -/
theorem C09_blockWith_restores (fuel : Nat) (bl : Block) (ctx : Nat) (s sw : ES) (rw : R Val)
    (hw : withCtx ctx (evalBlock fuel bl) s = (rw, sw)) (hs : settled rw) : sw.cur = s.cur :=
  withCtx_restores _ _ _ _ _ hw hs

theorem C09_blockWith_shape (fuel : Nat) (bl : Block) (ctx : Nat) :
    blockWith (fuel + 1) (some bl) ctx = (do let v ← withCtx ctx (evalBlock fuel bl); renderVal v) := by
  simp [blockWith]

/-- `let` and assignment write to the CURRENT context only: every other frame of the store is unchanged -/
theorem C09_set_local (k : Bytes) (v : Val) (s : ES) (d : Nat) (hd : d ≠ s.cur) :
    ((ctxSet k v s).2).store.frames[d]? = s.store.frames[d]? := by
  simp only [ctxSet, modifyS, Store.set]
  cases hf : s.store.frames[s.cur]? with
  | none => rfl
  | some f => simp [Ne.symm hd]

/-- Every evaluator function leaves the current context what it was — on success and on error — for every
    program, every data and every fuel: expressions, statements, blocks, loops (all three iteration forms),
    user-function calls, argument binding, block helpers, contentFor/contentOf, partials with layouts, nested
    renders (`Lib/EvalKeepsCur.lean`). The only two places that switch contexts, `withCtx` and `renderIn`, switch
    back (`kc_withCtx`, `renderIn_eq_withCtx`). So no scope a construct opens stays current after the construct
    ends: names bound inside it cannot leak that way. -/
theorem C09_context_restored_everywhere (fuel : Nat) : AllCur fuel := allCur fuel

/-- instance: any expression, in any state -/
theorem C09_expr_restores_context (fuel : Nat) (e : Option Expr) (s : ES) (h : settledR (evalExpr fuel e s).1) :
    (evalExpr fuel e s).2.cur = s.cur := (allCur fuel).evalExpr e s h

/-- instance: a whole render started in context `ctx` comes back with the caller's context -/
theorem C09_render_restores_context (fuel : Nat) (src : Bytes) (ctx : Nat) (s : ES) (h : settledR (renderIn fuel src ctx s).1) :
    (renderIn fuel src ctx s).2.cur = s.cur := (allCur fuel).renderIn src ctx s h

/-- No scope is ever removed or re-parented, for every program, data and fuel, on success, on error and on a
    fatal outcome alike: after any evaluator function has run, every context that existed before still exists
    and has the same parent (`Store.Grows`: the frame array only grows, the `outer` link of every old frame is
    unchanged; `Lib/EvalKeepsTree.lean`). Evaluation creates child scopes (`ctxNewChild`) and writes variables
    (`Store.set`), nothing else touches the store. Together with `C09_context_restored_everywhere` this is the shape
    of the scope discipline: a fixed tree that grows at the leaves, and a cursor that always returns to where it was. -/
theorem C09_scope_tree_append_only (fuel : Nat) : AllKT fuel := allKT fuel

/-- instance: a whole render, whatever it does, leaves every existing scope's parent link alone -/
theorem C09_render_keeps_scope_tree (fuel : Nat) (src : Bytes) (ctx : Nat) (s : ES) :
    s.store.Grows (renderIn fuel src ctx s).2.store := ((allKT fuel).renderIn src ctx).grows s

/-- instance, spelled out for one scope `i` that exists before an expression is evaluated -/
theorem C09_expr_keeps_parent (fuel : Nat) (e : Option Expr) (s : ES) (i : Nat) (hi : i < s.store.frames.size) :
    ((evalExpr fuel e s).2.store.frames[i]?).map Frame.outer = (s.store.frames[i]?).map Frame.outer :=
  (((allKT fuel).evalExpr e).grows s).2 i hi

/-- Every place in /repo that makes another context current restores the previous one by `defer` — so also on the
    error paths — as re-read from the source on every run (`Gen.ctxSwitchSites`: all assignments `x.ctx = …` in
    compiler.go, helper_context.go, partial_helper.go, template.go, plush.go, with whether a `defer` registered
    before them in the same or an enclosing block assigns the saved context back). This is the syntactic fact that
    licenses modelling these sites with `withCtx`, which restores on success and on error (`withCtx_restores`);
    `C09_context_restored_everywhere` is about that model. (The site in evalCallExpression, a chained call, is
    outside the model: `unsupported "chained call"`.) A restore moved after the body (seeded changes C16-f, C09-h),
    or dropped on one path (C11-c), flips an entry. -/
theorem C09_every_scope_switch_is_deferred :
    Gen.ctxSwitchSites = [("compiler.go:evalUserFunction", true), ("compiler.go:evalCallExpression", true),
      ("compiler.go:evalForExpression", true), ("compiler.go:evalIndexCallee", true),
      ("helper_context.go:BlockWith", true)] ∧ ∀ p ∈ Gen.ctxSwitchSites, p.2 = true := by
  constructor
  · rfl
  · decide

end Plush
