import PlushModel
import PlushProofs.Lib.Store
/-!
  C10 — Context behaves as a chain of scopes for every history of New / Set / Value / Has.
  Refinement of the concrete store of PlushModel/Ctx.lean (mutable association lists, parent
  indexes, helper injection at construction — the model of /repo/context.go, tied by the `ctx-hist`
  correspondence stream) to an abstract spec in which a scope is a partial function.
-/
namespace Plush

structure SFrame where
  bind : Bytes → Option Val
  parent : Option Nat

/-- abstract store: scopes in creation order -/
abbrev SStore := List SFrame

def SStore.valueF (s : SStore) : Nat → Nat → Bytes → Val
  | 0, _, _ => .nil
  | fuel+1, c, k =>
    match s[c]? with
    | none => .nil
    | some f =>
      match f.bind k with
      | some v => v
      | none => match f.parent with
        | some p => SStore.valueF s fuel p k
        | none => .nil

/-- the value most recently bound for `k` in the nearest scope on the path to the root that binds `k` (nil if none does) -/
def SStore.value (s : SStore) (c : Nat) (k : Bytes) : Val := s.valueF (c + 1) c k
def SStore.has (s : SStore) (c : Nat) (k : Bytes) : Bool := !(s.value c k).isNil

def updFn (f : Bytes → Option Val) (k : Bytes) (v : Val) : Bytes → Option Val :=
  fun k' => if k' == k then some v else f k'

def SStore.set (s : SStore) (c : Nat) (k : Bytes) (v : Val) : SStore :=
  match s[c]? with
  | none => s
  | some f => List.set s c { f with bind := updFn f.bind k v }

def SStore.inject (s : SStore) (c : Nat) (checkOuter : Option Nat) : List String → SStore
  | [] => s
  | h :: rest =>
    let k := b h
    let absent := !s.has c k && (match checkOuter with | some o => !s.has o k | none => true)
    SStore.inject (if absent then s.set c k (Store.builtin h) else s) c checkOuter rest

def bindOf (data : List (Bytes × Val)) : Bytes → Option Val := fun k => lookupKey k data

def SStore.newRoot (s : SStore) (data : List (Bytes × Val)) : SStore :=
  SStore.inject (s ++ [{ bind := bindOf data, parent := none }]) s.length none Gen.helperKeys

def SStore.newChild (s : SStore) (outer : Nat) : SStore :=
  SStore.inject (s ++ [{ bind := fun _ => none, parent := some outer }]) s.length (some outer) Gen.helperKeys

inductive COp
  | newRoot (data : List (Bytes × Val))
  | newChild (parent : Nat)
  | set (c : Nat) (k : Bytes) (v : Val)

def applyOp (s : Store) : COp → Store
  | .newRoot d => (s.newRoot d).1
  | .newChild p => (s.newChild p).1
  | .set c k v => s.set c k v

def specApply (s : SStore) : COp → SStore
  | .newRoot d => s.newRoot d
  | .newChild p => s.newChild p
  | .set c k v => s.set c k v

def run (ops : List COp) : Store := ops.foldl applyOp {}
def specRun (ops : List COp) : SStore := ops.foldl specApply []

def absFrame (f : Frame) : SFrame := { bind := bindOf f.data, parent := f.outer }
def abs (s : Store) : SStore := s.frames.toList.map absFrame

theorem bindOf_setKey (k : Bytes) (v : Val) (l : List (Bytes × Val)) :
    bindOf (setKey k v l) = updFn (bindOf l) k v := by
  funext k'
  simp [bindOf, updFn, lookupKey_setKey]

theorem abs_length (s : Store) : (abs s).length = s.frames.size := by simp [abs]

theorem abs_get (s : Store) (c : Nat) : (abs s)[c]? = (s.frames[c]?).map absFrame := by
  simp [abs]

theorem valueF_abs (s : Store) : ∀ (fuel c : Nat) (k : Bytes), (abs s).valueF fuel c k = s.valueF fuel c k := by
  intro fuel
  induction fuel with
  | zero => intro c k; rfl
  | succ n ih =>
    intro c k
    simp only [SStore.valueF, Store.valueF, abs_get]
    cases hf : s.frames[c]? with
    | none => simp
    | some f =>
      simp only [Option.map_some, absFrame, bindOf]
      cases lookupKey k f.data with
      | some v => rfl
      | none =>
        cases f.outer with
        | none => rfl
        | some o => exact ih o k

theorem value_abs (s : Store) (c : Nat) (k : Bytes) : (abs s).value c k = s.value c k := valueF_abs s _ c k
theorem has_abs (s : Store) (c : Nat) (k : Bytes) : (abs s).has c k = s.has c k := by
  simp [SStore.has, Store.has, value_abs]

theorem abs_set (s : Store) (c : Nat) (k : Bytes) (v : Val) : abs (s.set c k v) = (abs s).set c k v := by
  simp only [Store.set, SStore.set, abs_get]
  cases hf : s.frames[c]? with
  | none => simp
  | some f =>
    simp only [Option.map_some]
    apply List.ext_getElem?
    intro i
    simp only [abs, Array.set!_eq_setIfInBounds, Array.toList_setIfInBounds, List.getElem?_map, List.getElem?_set]
    by_cases hi : c = i
    · subst hi
      have hc : c < s.frames.size := (Array.getElem?_eq_some_iff.1 hf).1
      simp [hc, absFrame, bindOf_setKey]
    · simp [hi]

theorem abs_inject (hs : List String) : ∀ (s : Store) (c : Nat) (co : Option Nat),
    abs (s.injectHelpers c co hs) = (abs s).inject c co hs := by
  induction hs with
  | nil => intro s c co; rfl
  | cons h rest ih =>
    intro s c co
    simp only [Store.injectHelpers, SStore.inject]
    have hcond : (!s.has c (b h) && (match co with | some o => !s.has o (b h) | none => true)) =
        (!(abs s).has c (b h) && (match co with | some o => !(abs s).has o (b h) | none => true)) := by
      cases co <;> simp [has_abs]
    rw [ih, ← hcond, apply_ite abs, abs_set]
    rfl

theorem abs_push (s : Store) (f : Frame) : abs { s with frames := s.frames.push f } = abs s ++ [absFrame f] := by
  simp [abs]

/-- the simulation step: one concrete operation = one abstract operation -/
theorem abs_applyOp (s : Store) (op : COp) : abs (applyOp s op) = specApply (abs s) op := by
  cases op with
  | newRoot d =>
    simp only [applyOp, specApply, Store.newRoot, SStore.newRoot, abs_inject, abs_push, abs_length]
    rfl
  | newChild p =>
    simp only [applyOp, specApply, Store.newChild, SStore.newChild, abs_inject, abs_push, abs_length]
    rfl
  | set c k v => simp only [applyOp, specApply, abs_set]

theorem abs_foldl (ops : List COp) : ∀ (s : Store), abs (ops.foldl applyOp s) = ops.foldl specApply (abs s) := by
  induction ops with
  | nil => intro s; rfl
  | cons op rest ih => intro s; simp only [List.foldl_cons, ih, abs_applyOp]

/-- REFINEMENT: after ANY history of operations, what the concrete store answers to Value / Has is what
    the scope-chain spec answers. -/
theorem C10_refines (ops : List COp) (c : Nat) (k : Bytes) :
    (run ops).value c k = (specRun ops).value c k ∧ (run ops).has c k = (specRun ops).has c k := by
  have h : abs (run ops) = specRun ops := abs_foldl ops {}
  rw [← h]
  exact ⟨(value_abs _ c k).symm, (has_abs _ c k).symm⟩

/-- Has(k) ⇔ Value(k) ≠ nil -/
theorem C10_has (s : SStore) (c : Nat) (k : Bytes) : s.has c k = !(s.value c k).isNil := rfl

theorem SStore.set_get (s : SStore) (c d : Nat) (k : Bytes) (v : Val) :
    (s.set c k v)[d]? = if d = c then (s[c]?).map (fun f => { f with bind := updFn f.bind k v }) else s[d]? := by
  simp only [SStore.set]
  cases hf : s[c]? with
  | none => split <;> simp_all
  | some f =>
    have hc : c < s.length := (List.getElem?_eq_some_iff.1 hf).1
    simp only [List.getElem?_set, hc, if_true, Option.map_some, eq_comm]

/-- Value after Set on the same context is the value set -/
theorem C10_value_after_set (s : SStore) (c : Nat) (k : Bytes) (v : Val) (hc : c < s.length) :
    (s.set c k v).value c k = v := by
  simp only [SStore.value, SStore.valueF, SStore.set_get, if_true]
  have : s[c]? = some s[c] := List.getElem?_eq_getElem hc
  simp [this, updFn]

/-- `c` lies on the path from `d` to the root (looking at most `fuel` scopes up) -/
def onPath (s : SStore) : Nat → Nat → Nat → Bool
  | 0, _, _ => false
  | fuel+1, d, c =>
    d == c || (match s[d]? with
      | some f => (match f.parent with | some p => onPath s fuel p c | none => false)
      | none => false)

theorem onPath_set (s : SStore) (c' : Nat) (k : Bytes) (v : Val) : ∀ (fuel d c : Nat),
    onPath (s.set c' k v) fuel d c = onPath s fuel d c := by
  intro fuel
  induction fuel with
  | zero => intro d c; rfl
  | succ n ih =>
    intro d c
    simp only [onPath, SStore.set_get]
    by_cases h : d = c'
    · subst h
      cases hf : s[d]? with
      | none => simp
      | some f =>
        simp only [if_true, Option.map_some]
        cases hp : f.parent <;> simp [ih]
    · simp only [h, if_false]
      cases hf : s[d]? with
      | none => rfl
      | some f =>
        simp only []
        cases hp : f.parent <;> simp [ih]

/-- a Set on `c` under `k` can change what `d` sees under `k'` only if the keys agree and `c` is on `d`'s path to the root -/
theorem SStore.valueF_set (s : SStore) (c : Nat) (k k' : Bytes) (v : Val) :
    ∀ (fuel d : Nat), k' ≠ k ∨ onPath s fuel d c = false → (s.set c k v).valueF fuel d k' = s.valueF fuel d k' := by
  intro fuel
  induction fuel with
  | zero => intro d _; rfl
  | succ n ih =>
    intro d h
    simp only [SStore.valueF, SStore.set_get]
    by_cases hdc : d = c
    · subst hdc
      have hk : k' ≠ k := h.resolve_right (by simp [onPath])
      have hkk : (k' == k) = false := by simpa using hk
      cases hf : s[d]? with
      | none => simp
      | some f =>
        simp only [if_true, Option.map_some, updFn, hkk, Bool.false_eq_true, if_false]
        cases f.bind k' with
        | some x => rfl
        | none =>
          cases f.parent with
          | none => rfl
          | some p => exact ih p (.inl hk)
    · simp only [hdc, if_false]
      cases hf : s[d]? with
      | none => rfl
      | some f =>
        simp only []
        cases f.bind k' with
        | some x => rfl
        | none =>
          cases hp : f.parent with
          | none => rfl
          | some p => exact ih p (h.imp_right fun h => by simpa [onPath, hdc, hf, hp] using h)

/-- a Set never changes a different key, anywhere -/
theorem C10_set_other_key (s : SStore) (c : Nat) (k k' : Bytes) (v : Val) (hk : k' ≠ k) :
    ∀ (fuel d : Nat), (s.set c k v).valueF fuel d k' = s.valueF fuel d k' :=
  fun fuel d => s.valueF_set c k k' v fuel d (.inl hk)

/-- ISOLATION: a Set on `c` never changes what a context observes unless `c` is that context or one
    of its ancestors (so ancestors and siblings of `c` are unaffected) -/
theorem C10_isolation (s : SStore) (c : Nat) (k k' : Bytes) (v : Val) :
    ∀ (fuel d : Nat), onPath s fuel d c = false → (s.set c k v).valueF fuel d k' = s.valueF fuel d k' :=
  fun fuel d h => s.valueF_set c k k' v fuel d (.inr h)

/-- nearest binding wins: a binding in the context itself shadows every ancestor, also a nil one -/
theorem C10_nearest (s : SStore) (c : Nat) (k : Bytes) (f : SFrame) (hf : s[c]? = some f) :
    s.value c k = match f.bind k with
      | some v => v
      | none => match f.parent with
        | some p => s.valueF c p k
        | none => .nil := by
  simp only [SStore.value, SStore.valueF, hf]

-- non-vacuity: the isolation hypothesis holds for the parent and a sibling of the written context
-- (root 0 with children 1 and 2: neither 0 nor 2 has 1 on its path; 1 itself has)
def demoStore : SStore :=
  [{ bind := fun _ => none, parent := none }, { bind := fun _ => none, parent := some 0 }, { bind := fun _ => none, parent := some 0 }]
example : onPath demoStore 1 0 1 = false ∧ onPath demoStore 3 2 1 = false ∧ onPath demoStore 2 1 1 = true := by decide

end Plush
