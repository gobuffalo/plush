import PlushModel
import PlushProofs.Lib.ParserTotal
import PlushProofs.Lib.EvalPaths
import PlushModel.Gen.EvalDispatch
import PlushProofs.Lib.EvalRun
import PlushProofs.Lib.EvalKeepsCur
import PlushProofs.Lib.EvalKeepsTree
/-!
  C11 — path access returns exactly what Go navigation would, or fails; never another element.
  Struct values and pointers are in the model's value universe (`Val.struct`, `Val.ptr`): field selection along a
  dotted path is navigation (`C11_path_is_navigation`), and index-then-member (`evalIndexCallee`) selects from the
  indexed element (`C11_index_then_member_uses_the_element`); both tied to /repo by the `render-struct` stream.
  Partial: methods, embedded structs and a pointer held in an interface-typed field are reflected Go behaviour
  outside the model; for them navigation is decided by the C11 oracle (self-describing data) on the implementation.
  Also here, the part of the mechanism that is logic: how a dotted path is split and re-joined, how `assignCallee`
  wires `a[i].b` / `a[i].b.f()` (the root of the member chain is the indexed element: fixes 466f496, 84991b7), that
  an index is bounds-checked on both sides, and that a failed navigation step is an error or nil — never a default
  element.
-/
namespace Plush
open EM

/-- a dotted identifier is split on '.', and its printed form is the original spelling -/
theorem C11_split_join (s : Bytes) : joinWith [46] (splitOn1 46 s) = s := by
  induction s with
  | nil => rfl
  | cons c r ih =>
    simp only [splitOn1]
    cases hs : splitOn1 46 r with
    | nil => exact absurd hs (splitOn1_ne_nil 46 r)
    | cons x xs =>
      rw [hs] at ih
      by_cases h : c = 46
      · subst h
        simp only [beq_self_eq_true, if_true, joinWith]
        simp [ih]
      · have : (c == 46) = false := by simpa using h
        simp only [this, Bool.false_eq_true, if_false]
        cases xs with
        | nil => simp [joinWith] at ih ⊢; exact ih
        | cons y ys => simp [joinWith] at ih ⊢; exact ih

theorem C11_ident_spelling (t : Token) (lit : Bytes) :
    ({ tok := t, segs := splitOn1 46 lit } : Ident).str = lit := by
  simp [Ident.str, C11_split_join]

/-- `a[i].b`: the member chain hangs off the indexed element (the base), not off a global name -/
theorem C11_assignCallee_ident (i : Ident) (cv : Bytes) (s : PS) :
    (P.assignCallee (some (.ident i)) cv).run s = .ok (some (.ident { i with base := some cv }), s) := by
  simp [P.assignCallee, pure, StateT.pure, StateT.run, Except.pure]

/-- `a[i].b.f()`: the call keeps its own callee chain `b` and the indexed element becomes the ROOT of that
    chain — f is called on the field b of the element, not on the element itself -/
theorem C11_assignCallee_call (t : Token) (i fi : Ident) (ch : Option Expr) (args blk) (cv : Bytes) (s : PS) :
    (P.assignCallee (some (.call t (some (.ident i)) ch (.ident fi) args blk)) cv).run s =
      .ok (some (.call t (some (.ident { i with base := some cv })) ch (.ident { fi with base := some cv }) args blk), s) := by
  simp [P.assignCallee, pure, StateT.pure, StateT.run, Except.pure]

/-- anything else after `a[i].` is a syntax error, not a silently different path -/
theorem C11_assignCallee_other (cv : Bytes) (s : PS) :
    (P.assignCallee none cv).run s =
      .ok (none, { s with errs := s.errs.push { line := some (P.tokAt s s.pos).line, kind := "invalid-nested-index-access" } }) := by
  apply P.run_of_OK
  unfold P.assignCallee
  wp_simp

/-- an index outside 0..len-1 — on EITHER side — is an error: never element 0, never the last element -/
theorem C11_index_out_of_range (a : Nat) (ety : Ty) (ix : Int) (s : ES) (items : Array Val)
    (h : s.heap[a]? = some (.slice items)) (hout : ix < 0 ∨ (items.size : Int) - 1 < ix) (hc : Bool) :
    accessIndex (.list ety a) (.int ix) hc s = (.err { kind := "index-out-of-bounds" }, s) := by
  have : (decide (ix < 0) || decide ((items.size : Int) - 1 < ix)) = true := by
    rcases hout with h1 | h1 <;> simp [h1]
  simp only [accessIndex, bind_ok (heapSlice_run h), this, if_true]; rfl

/-- an index inside the range yields exactly that element -/
theorem C11_index_in_range (a : Nat) (ety : Ty) (ix : Int) (s : ES) (items : Array Val)
    (h : s.heap[a]? = some (.slice items)) (h0 : 0 ≤ ix) (h1 : ix ≤ (items.size : Int) - 1) :
    accessIndex (.list ety a) (.int ix) false s = (.ok (items.getD ix.toNat .nil), s) := by
  have : (decide (ix < 0) || decide ((items.size : Int) - 1 < ix)) = false := by
    simp; omega
  simp only [accessIndex, bind_ok (heapSlice_run h), this, Bool.false_eq_true, if_false]; rfl

/-- a missing map key is nil (empty output), not some other entry's value -/
theorem C11_missing_key (a : Nat) (k : Bytes) (s : ES) (es : List (Val × Val))
    (h : s.heap[a]? = some (.map es)) (hk : mapLookup (.str k) es = none) (hc : Bool) :
    accessIndex (.map .string .any a) (.str k) hc s = (.ok .nil, s) := by
  show (heapMap a >>= _) s = _
  rw [bind_ok (heapMap_run h), hk]; rfl

/-- a member of nil is nil (a member of a non-struct value is an error: `C11_incomplete_navigation`) -/
theorem C11_member_of_nil (fuel : Nat) (i : Ident) (root leaf : Bytes) (s s1 : ES)
    (hi : i.base = none ∧ i.segs = [root, leaf])
    (h : evalIdent fuel { i with segs := [root] } s = (.ok .nil, s1)) :
    evalIdent (fuel + 1) i s = (.ok .nil, s1) := by
  obtain ⟨tok, base, segs⟩ := i
  obtain ⟨rfl, rfl⟩ : base = none ∧ segs = [root, leaf] := hi
  show evalIdent (fuel + 1) { tok := tok, segs := root :: ([] ++ [leaf]), base := none } s = _
  rw [evalIdent_snoc, bind_ok h]; rfl

/-- Evaluating a dotted path is navigation, for every path length, every data graph, every state and any
    sufficient fuel: the value of `root.f1.f2.….fn` is the left-to-right fold of the one-step member function
    (`memberStep`: nil has nil members; one pointer dereference in front; struct field lookup by name; a nil
    pointer field is nil, a non-nil pointer field is dereferenced; unexported is an error; anything else has no
    members) over `f1 … fn`, starting from what `root` is bound to — and the evaluator state is untouched. So a
    path yields exactly what that navigation yields, or the first failure on the way. -/
theorem C11_path_is_navigation (t : Token) (root : Bytes) (s : ES) (path : List Bytes) (fuel : Nat) (hf : path.length < fuel) :
    evalIdent fuel { tok := t, segs := root :: path, base := none } s = (navigate (rootValue root s) path, s) := by
  -- the evaluator peels segments off the right end, one unit of fuel each
  induction fuel generalizing path with
  | zero => cases hf
  | succ f ih =>
    rcases List.eq_nil_or_concat path with rfl | ⟨init, last, rfl⟩
    · exact evalIdent_root f t root s
    · rw [List.concat_eq_append] at hf ⊢
      have h := ih init (by simpa using hf)
      rw [evalIdent_snoc, navigate_snoc]
      cases hr : navigate (rootValue root s) init <;> rw [hr] at h
      · rw [bind_ok h]; rfl
      · rw [bind_err h]
      · rw [bind_fatal h]

/-- the right field: a field that is there, exported and not a pointer is returned as it is … -/
theorem C11_field_exact (ty : String) (fields : List (Bytes × Val)) (name : Bytes) (v : Val)
    (h : lookupKey name fields = some v) (hx : isExportedName name = true) (hp : ∀ t p, v ≠ .ptr t p) :
    memberStep (.struct ty fields) name = .ok v := by
  unfold memberStep
  simp only [h]
  cases v <;> simp_all

/-- … and what is found under a name IS an entry of that name: never the value of a different element -/
theorem C11_found_value_has_that_name (k : Bytes) (l : List (Bytes × Val)) (v : Val) (h : lookupKey k l = some v) :
    (k, v) ∈ l := by
  induction l with
  | nil => cases h
  | cons kv r ih =>
    obtain ⟨k', v'⟩ := kv
    simp only [lookupKey] at h
    split at h
    · next hk => cases h; rw [beq_iff_eq.mp hk]; exact List.mem_cons_self
    · exact List.mem_cons_of_mem _ (ih h)

/-- pointers are dereferenced transparently -/
theorem C11_through_pointer (pty : String) (c : Val) (name : Bytes) (hc : ∀ a r, c ≠ .opaque a r) (hn : c ≠ .nil)
    (hpp : ∀ t p, c ≠ .ptr t p) : memberStep (.ptr pty (some c)) name = memberStep c name := by
  cases c <;> first | rfl | exact absurd rfl hn | exact absurd rfl (hc _ _) | exact absurd rfl (hpp _ _)

/-- navigation that cannot be completed is an error or nil — a missing field, a typed nil pointer, a scalar,
    a slice, a map have no members; members of nil are nil -/
theorem C11_incomplete_navigation (ty : String) (fields : List (Bytes × Val)) (name : Bytes) (t : String) (i : Int) (sv : Bytes)
    (e : Ty) (a : Nat) (h : lookupKey name fields = none) :
    memberStep (.struct ty fields) name = .err { kind := "no-field-or-method" } ∧
    memberStep (.ptr t none) name = .err { kind := "no-field-or-method" } ∧
    memberStep .nil name = .ok .nil ∧
    memberStep (.int i) name = .err { kind := "no-field-or-method" } ∧
    memberStep (.str sv) name = .err { kind := "no-field-or-method" } ∧
    memberStep (.list e a) name = .err { kind := "no-field-or-method" } ∧
    memberStep (.map .string .any a) name = .err { kind := "no-field-or-method" } :=
  ⟨by unfold memberStep; simp only [h], rfl, rfl, rfl, rfl, rfl, rfl⟩

/-- what `evalIndex` runs for `a[i].name` after the bounds-checked access (`C11_index_tail_is_evalIndex`; Go:
    `evalIndexCallee`): a fresh child scope with a copy of the caller's variables, the element bound there under the
    callee root `cv`, the tail `cv.name` evaluated there -/
def indexTail (f : Nat) (t : Token) (cv name : Bytes) (elem : Val) : EM Val := do
  let octx ← getCur
  let c ← ctxNewChild octx
  copyFrame octx c
  ctxSetIn c cv elem
  withCtx c (evalExpr (f + 3) (some (.ident { tok := t, base := some cv, segs := [name] })))

/-- Index-then-member hangs off the indexed element (`evalIndexCallee`, the site of the wrong-element defect, fix
    466f496): for every state, every non-nil element and every name of the callee root, binding the element in the
    fresh child scope and evaluating the tail `cv.name` there yields exactly `memberStep elem name` — the member of
    that element, whatever the caller's scope or the copied variables hold — and, unless that is fatal, the caller's
    scope is current again afterwards. (A nil element is left out: `Has` is false of a name bound to nil, in Go too,
    so the tail reads it as an unknown identifier.) -/
theorem C11_index_then_member_uses_the_element (f : Nat) (t : Token) (cv name : Bytes) (elem : Val) (s : ES)
    (hne : elem.isNil = false) :
    (indexTail f t cv name elem s).1 = memberStep elem name ∧
      ((∀ x, memberStep elem name ≠ .fatal x) → (indexTail f t cv name elem s).2.cur = s.cur) := by
  -- `New()`: a child `c` that exists in the store `st1` it leaves
  have hlt := Store.newChild_lt s.store s.cur
  have hnew := ctxNewChild_run s.cur s
  generalize s.store.newChild s.cur = p at hlt hnew
  obtain ⟨st1, c⟩ := p
  change ctxNewChild s.cur s = (.ok c, { s with store := st1 }) at hnew
  -- the copy only grows the store, so `c` still exists when the element is written to it
  obtain ⟨s2, hcopy⟩ : ∃ s2, copyFrame s.cur c { s with store := st1 } = (.ok (), s2) := ⟨_, rfl⟩
  have hc : c < s2.store.frames.size := by
    have := ((keepsTree_closed.copyFrame s.cur c).grows { s with store := st1 }).1
    rw [hcopy] at this
    exact Nat.lt_of_lt_of_le hlt this
  -- so in the state where the tail runs (element bound, child current) `cv` reads as the element
  have hval : (s2.store.set c cv elem).value c cv = elem := Store.value_set_same s2.store c cv elem hc
  have hev := evalIdent_based f t cv name { s2 with store := s2.store.set c cv elem, cur := c }
    (by rw [Store.has, hval, hne]; rfl)
  rw [hval] at hev
  have h1 : (indexTail f t cv name elem s).1 = memberStep elem name := by
    unfold indexTail
    rw [evalExpr, bind_ok (show getCur s = (.ok s.cur, s) from rfl), bind_ok hnew, bind_ok hcopy,
      bind_ok (show ctxSetIn c cv elem s2 = (.ok (), { s2 with store := s2.store.set c cv elem }) from rfl),
      withCtx_run]
    dsimp only
    rw [hev]
    cases memberStep elem name <;> rfl
  refine ⟨h1, fun hx => ?_⟩
  -- every step keeps the current scope, `withCtx` restores it
  have hk : KeepsCur (indexTail f t cv name elem) := by
    unfold indexTail; walk keepsCur_closed [kc_withCtx _ _]
  refine hk s ?_
  rw [h1]
  cases hm : memberStep elem name <;> first | trivial | exact hx _ hm

/-- … and that sequence is what `evalIndex` does for `l[i].name` (after `assignCallee` put `cv` at the root of the
    tail): index and left evaluated, bounds-checked access, nil for a missing map key WITHOUT evaluating the tail,
    otherwise the tail on the element -/
theorem C11_index_tail_is_evalIndex (f : Nat) (l i : Option Expr) (t : Token) (cv name : Bytes) :
    evalIndex (f + 4) l i none (some (.ident { tok := t, base := some cv, segs := [name] })) = (do
      let index ← evalExpr (f + 3) i
      let left ← evalExpr (f + 3) l
      let elem ← accessIndex left index false
      if (← mapKeyMissing left index) then pure .nil else indexTail f t cv name elem) := by
  unfold evalIndex indexTail
  simp only [calleeRoot, Option.getD_some]

/-- index read and index write do not look through pointers (translated from `evalAccessIndex` / `evalUpdateIndex`
    on every run): an index applied to a pointer — also a pointer to a map or slice — is an error, in Go and in the
    model, never an element and never a panic -/
theorem C11_index_does_not_dereference (t : String) (p : Option Val) (i : Val) (h : Bool) (s : ES) :
    Gen.evalAccessIndexDerefsPointer = false ∧ Gen.evalUpdateIndexDerefsPointer = false ∧
    Gen.evalAccessIndexKinds = [["reflect.Map"], ["reflect.Array", "reflect.Slice"]] ∧
    accessIndex (.ptr t p) i h s = (.err { kind := "could-not-index" }, s) :=
  ⟨rfl, rfl, rfl, rfl⟩

/-- non-vacuity: `u.Boss.Name` on `u = &User{Name: "ann", Boss: &User{Name: "bo", Boss: nil}}` is "bo", and
    `u.Boss.Boss.Name` is nil (a member of a nil pointer field) -/
example :
    let name : Bytes := [78, 97, 109, 101]   -- "Name"
    let boss : Bytes := [66, 111, 115, 115]  -- "Boss"
    let bo : Val := .struct "User" [(name, .str [98, 111]), (boss, .ptr "*User" none)]
    let ann : Val := .ptr "*User" (some (.struct "User" [(name, .str [97, 110, 110]), (boss, .ptr "*User" (some bo))]))
    navigate (.ok ann) [boss, name] = .ok (.str [98, 111]) ∧
    navigate (.ok ann) [boss, boss, name] = .ok .nil ∧
    navigate (.ok ann) [[78, 111, 112, 101]] = .err { kind := "no-field-or-method" } := by
  refine ⟨?_, ?_, ?_⟩ <;> rfl

end Plush
