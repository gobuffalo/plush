import PlushModel
import PlushModel.Gen.EvalDispatch
import PlushProofs.Lib.EvalRun
/-!
  C12 — Go helpers receive exactly the supplied arguments, in order, or are not called.
  Decision logic of the argument binder (`bindArgs` / `bindFixed` / `bindVariadic`, the model of the
  fixed and variadic paths of evalCallExpression), stated outright. Tied to /repo by the `render-gen`
  stream (helper family with fixed, optional-map, helper-context and variadic signatures) and the C12 oracle.
-/
namespace Plush
open EM

/-- too many arguments for a non-variadic function: an error, and NOTHING is evaluated (state unchanged),
    so the function is not invoked -/
theorem C12_too_many (fuel : Nat) (name : String) (sig : Sig) (args : List (Option Expr)) (blk : Option Block)
    (s : ES) (hv : sig.variadic = false) (h : args.length > sig.params.length) :
    bindArgs (fuel + 1) name sig args blk s = (.err { kind := "too-many-arguments" }, s) := by
  simp [bindArgs, hv, h, fail, throwErr]

/-- too few arguments for a variadic function (fewer than its fixed parameters): an error, nothing evaluated -/
theorem C12_variadic_too_few (fuel : Nat) (name : String) (sig : Sig) (args : List (Option Expr)) (blk : Option Block)
    (s : ES) (hv : sig.variadic = true) (h : args.length < sig.params.length - 1) :
    bindArgs (fuel + 1) name sig args blk s = (.err { kind := "too-few-arguments" }, s) := by
  simp [bindArgs, hv, h, fail, throwErr]

/-- arguments are evaluated one at a time, left to right: the first argument is evaluated first, and if
    it fails the later ones are not evaluated (they do not occur in the result) -/
theorem C12_first_arg_first (fuel : Nat) (blk : Option Block) (a : Option Expr) (t : Ty) (rest : List (Option Expr × Ty))
    (acc : List Val) (s s1 : ES) (e : Err) (h : evalExpr fuel a s = (.err e, s1)) :
    bindFixed (fuel + 1) blk ((a, t) :: rest) acc s = (.err e, s1) := by
  rw [bindFixed]; exact bind_err h

/-- an argument whose value is not assignable to its parameter: an error that stops the binding — the
    remaining arguments are not evaluated and the function is not invoked -/
theorem C12_bad_arg (fuel : Nat) (blk : Option Block) (a : Option Expr) (t : Ty) (rest : List (Option Expr × Ty))
    (acc : List Val) (s s1 : ES) (v : Val) (at_ : Ty) (h : evalExpr fuel a s = (.ok v, s1))
    (hn : v.isNil = false) (hty : v.ty = some at_) (hna : assignableTo at_ t = false) :
    bindFixed (fuel + 1) blk ((a, t) :: rest) acc s = (.err { kind := "invalid-argument" }, s1) := by
  simp [bindFixed, bind, h, hn, hty, hna, getCur, getS, fail, throwErr, pure]

/-- an assignable argument is passed unchanged, in its position; binding continues with the next one -/
theorem C12_good_arg (fuel : Nat) (blk : Option Block) (a : Option Expr) (t : Ty) (rest : List (Option Expr × Ty))
    (acc : List Val) (s s1 : ES) (v : Val) (at_ : Ty) (h : evalExpr fuel a s = (.ok v, s1))
    (hn : v.isNil = false) (hty : v.ty = some at_) (ha : assignableTo at_ t = true) :
    bindFixed (fuel + 1) blk ((a, t) :: rest) acc s = bindFixed fuel blk rest (acc ++ [v]) s1 := by
  simp [bindFixed, bind, h, hn, hty, ha, getCur, getS, pure]

/-- nil becomes the parameter type's zero value — for fixed parameters … -/
theorem C12_nil_is_zero (fuel : Nat) (blk : Option Block) (a : Option Expr) (t : Ty) (rest : List (Option Expr × Ty))
    (acc : List Val) (s s1 : ES) (h : evalExpr fuel a s = (.ok .nil, s1)) :
    bindFixed (fuel + 1) blk ((a, t) :: rest) acc s = bindFixed fuel blk rest (acc ++ [zeroOf t]) s1 := by
  simp [bindFixed, bind, h, Val.isNil, getCur, getS, pure]

/-- … and in the variadic tail (the element type's zero value) -/
theorem C12_variadic_nil_is_zero (fuel : Nat) (t : Ty) (a : Option Expr) (rest : List (Option Expr)) (acc : List Val)
    (s s1 : ES) (h : evalExpr fuel a s = (.ok .nil, s1)) :
    bindVariadic (fuel + 1) t (a :: rest) acc s = bindVariadic fuel t rest (acc ++ [zeroOf t]) s1 := by
  simp [bindVariadic, bind, h, Val.isNil]

/-- a TYPED nil pointer is a value, not nil: it is passed on unchanged when the parameter can take it (an
    `interface{}` parameter or a pointer parameter of its own type), and is NOT replaced by the zero value — only the
    untyped nil is (the class of seeded change C12-h; tied to /repo by pointer arguments in the `render-struct` stream) -/
theorem C12_typed_nil_pointer_is_a_value (fuel : Nat) (blk : Option Block) (a : Option Expr) (t : Ty) (pty : String)
    (rest : List (Option Expr × Ty)) (acc : List Val) (s s1 : ES)
    (h : evalExpr fuel a s = (.ok (.ptr pty none), s1)) (ha : assignableTo (.named pty) t = true) :
    bindFixed (fuel + 1) blk ((a, t) :: rest) acc s = bindFixed fuel blk rest (acc ++ [.ptr pty none]) s1 :=
  C12_good_arg fuel blk a t rest acc s s1 (.ptr pty none) (.named pty) h rfl rfl ha

/-- … and it is rejected, with the helper not invoked, when the parameter cannot take it -/
theorem C12_typed_nil_pointer_rejected (fuel : Nat) (blk : Option Block) (a : Option Expr) (t : Ty) (pty : String)
    (rest : List (Option Expr × Ty)) (acc : List Val) (s s1 : ES)
    (h : evalExpr fuel a s = (.ok (.ptr pty none), s1)) (ha : assignableTo (.named pty) t = false) :
    bindFixed (fuel + 1) blk ((a, t) :: rest) acc s = (.err { kind := "invalid-argument" }, s1) :=
  C12_bad_arg fuel blk a t rest acc s s1 (.ptr pty none) (.named pty) h rfl rfl ha

/-- the end of the variadic tail: with no argument left, what the function receives is the list accumulated — one value
    appended per remaining argument, in order (`acc ++ [·]` in `bindVariadic`) -/
theorem C12_variadic_all (fuel : Nat) (t : Ty) (acc : List Val) (s : ES) :
    bindVariadic (fuel + 1) t [] acc s = (.ok acc, s) := by
  rw [bindVariadic]; rfl

/-- the wrapper the call site puts around a helper's error ("could not call … function: %w", `wrap` in `callHelper`)
    keeps the cause chain: `errors.Is` still finds the original -/
theorem C12_wrap_keeps_causes (e : Err) : ({ e with kind := "helper-failed", direct := false } : Err).causes = e.causes := rfl

-- signatures with a trailing helper context / options map, which the binder supplies when omitted
example : (helperSig "partial").map (·.params.length) = some 3 ∧ (helperSig "contentOf").map (·.params.length) = some 3 ∧
    (helperSig "truncate").map (·.params) = some [.string, optsTy] := by decide

/-- The argument check in /repo is assignability, at all three binding sites (fixed parameters, the fixed part of a
    variadic, the variadic tail) — re-read from `evalCallExpression` on every run: the reflect type predicates it
    applies are exactly three `AssignableTo` on the argument's type, plus the `ConvertibleTo`/`Implements` tests
    that recognise an omitted helper-context / options parameter. A check relaxed to convertibility (seeded changes
    C01-e, C04-i: a string accepted for a `template.HTML` parameter, a slice for an array parameter) changes this
    list. The model's `bindFixed` / `bindVariadic` use `assignableTo` (C12_bad_arg, C12_good_arg). -/
theorem C12_argument_check_is_assignability :
    Gen.callTypeChecks = ["actualT.AssignableTo", "arg.ConvertibleTo", "arg.Implements", "arg.ConvertibleTo",
      "actualT.AssignableTo", "actualT.AssignableTo"] := rfl

end Plush
