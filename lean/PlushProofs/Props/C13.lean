import PlushModel
import PlushProofs.Lib.EvalKeepsFeeder
import PlushProofs.Lib.Store
/-!
  C13 — rendering is a deterministic function of template and data; templates are immutable.
  The model's `renderIn` is a function of (source, state), so the content here is: (1) the places
  where the Go evaluator could depend on Go's map order or mutate shared state are exactly the ones the
  model accounts for (`Gen.*Sites`, translated from /repo on every run); (2) the frame copies that range
  over a Go map are order-irrelevant; (3) hash literals evaluate in source order; (4) the cache is
  transparent; (5) evaluation leaves the template sources alone. What the model cannot exhibit is Go's
  map-order randomisation itself; it is quantified over instead (any permutation), and the oracle repeats
  renders to sample it.
-/
namespace Plush
open Gen

def orderedRanges : List String :=
  ["f.Parameters", "c.program.Statements", "node.Elements", "node.Statements", "node.Arguments", "node.ElseIf",
   "node.Order", "node.Parameters", "ro.Value", "t", "t.Value"]
def frameCopies : List (String × String) :=
  [("PartialHelper", "data"), ("evalCallExpression", "octx.data"), ("evalForExpression", "octx.data"),
   ("evalIndexCallee", "octx.data")]

/-- every `range` in the evaluator files either walks an ordered sequence (`orderedRanges`: AST children, argument
    lists, slices being written) or is one of the four copies of a context frame / data map into a fresh scope
    (`frameCopies`); reflect's `MapKeys` / `MapRange` is called in evalForExpression only (the `for` over a map) -/
theorem C13_sites :
    (rangeSites.filter fun p => !orderedRanges.contains p.2) = frameCopies ∧
    mapKeysSites = ["evalForExpression"] := by decide

/-- hash literals are evaluated over `node.Order` (source order), not over the `Pairs` map -/
theorem C13_hash_in_source_order : ("evalHashLiteral", "node.Order") ∈ rangeSites ∧
    ¬ (("evalHashLiteral", "node.Pairs") ∈ rangeSites) := by decide

/-- executing never writes the parsed program: no assignment through an AST-typed variable, the
    `program` field is assigned only by Parse, no package-level variable is written -/
theorem C13_no_ast_writes : astWriteSites = [] ∧ programWriteSites = ["Parse"] ∧ packageVarWriteSites = [] := by
  decide

theorem lookup_foldl_set (kvs : List (Bytes × Val)) : ∀ (d : List (Bytes × Val)) (k : Bytes),
    lookupKey k (kvs.foldl (fun acc kv => setKey kv.1 kv.2 acc) d) =
      match (kvs.reverse.find? fun kv => kv.1 == k) with
      | some kv => some kv.2
      | none => lookupKey k d := by
  induction kvs with
  | nil => intro d k; rfl
  | cons x rest ih =>
    intro d k
    simp only [List.foldl_cons, ih, List.reverse_cons, List.find?_append]
    cases h : (rest.reverse.find? fun kv => kv.1 == k) with
    | some kv => simp
    | none =>
      simp only [Option.none_or, List.find?_cons, List.find?_nil]
      by_cases hx : x.1 = k
      · subst hx; simp [lookupKey_setKey]
      · have h1 : (x.1 == k) = false := by simpa using hx
        have h2 : (k == x.1) = false := by simpa using Ne.symm hx
        simp [h1, h2, lookupKey_setKey]

theorem find_key_perm (k : Bytes) : ∀ (l₁ l₂ : List (Bytes × Val)), l₁.Perm l₂ → (l₁.map (·.1)).Nodup →
    (l₁.find? fun kv => kv.1 == k) = (l₂.find? fun kv => kv.1 == k) := by
  intro l₁ l₂ hp
  induction hp with
  | nil => intro _; rfl
  | cons x _ ih =>
    intro hn
    simp only [List.map_cons, List.nodup_cons] at hn
    simp only [List.find?_cons]
    split
    · rfl
    · exact ih hn.2
  | swap x y l =>
    intro hn
    simp only [List.map_cons, List.nodup_cons, List.mem_cons, not_or] at hn
    simp only [List.find?_cons]
    by_cases hx : x.1 = k
    · by_cases hy : y.1 = k
      · exact absurd (hy.trans hx.symm) hn.1.1
      · have : (y.1 == k) = false := by simpa using hy
        simp [hx, this]
    · have : (x.1 == k) = false := by simpa using hx
      simp [this]
  | trans h1 _ ih1 ih2 =>
    intro hn
    rw [ih1 hn]
    exact ih2 ((h1.map _).nodup_iff.mp hn)

/-- the frame copies (`for k, v := range data { ctx.Set(k, v) }`) give the same bindings whatever the order in which
    Go visits the map: the keys of a map are distinct, and then only the entry for a key decides what is found under
    it — so any two visiting orders of the same map leave every key bound alike -/
theorem C13_copy_order_irrelevant (kvs₁ kvs₂ : List (Bytes × Val)) (hp : kvs₁.Perm kvs₂)
    (hn : (kvs₁.map (·.1)).Nodup) (d : List (Bytes × Val)) (k : Bytes) :
    lookupKey k (kvs₁.foldl (fun acc kv => setKey kv.1 kv.2 acc) d) =
    lookupKey k (kvs₂.foldl (fun acc kv => setKey kv.1 kv.2 acc) d) := by
  rw [lookup_foldl_set, lookup_foldl_set]
  have hr : kvs₁.reverse.Perm kvs₂.reverse := (List.reverse_perm _).trans (hp.trans (List.reverse_perm _).symm)
  have hnr : (kvs₁.reverse.map (·.1)).Nodup := by
    rw [List.map_reverse]; exact (List.reverse_perm _).nodup_iff.mpr hn
  rw [find_key_perm k _ _ hr hnr]

/-- `plush.Parse` with the cache: an association list from input text to parsed template -/
def cacheParse {T : Type} (parse : Bytes → Option T) (enabled : Bool) (cache : List (Bytes × T)) (input : Bytes) :
    Option T × List (Bytes × T) :=
  if !enabled then (parse input, cache)
  else match cache.find? (fun e => e.1 == input) with
    | some e => (some e.2, cache)
    | none => match parse input with
      | some t => (some t, cache ++ [(input, t)])
      | none => (none, cache)

def CacheOk {T : Type} (parse : Bytes → Option T) (cache : List (Bytes × T)) : Prop :=
  ∀ e ∈ cache, parse e.1 = some e.2

/-- the cache is transparent: on or off, cold or warm, Parse returns what a fresh parse returns, and the invariant
    `CacheOk` (every entry is what a fresh parse of its key gives) is kept — hence for every history of calls
    (`C13_cache_history`) -/
theorem C13_cache {T : Type} (parse : Bytes → Option T) (enabled : Bool) (cache : List (Bytes × T)) (input : Bytes)
    (h : CacheOk parse cache) :
    (cacheParse parse enabled cache input).1 = parse input ∧ CacheOk parse (cacheParse parse enabled cache input).2 := by
  unfold cacheParse
  cases enabled
  · exact ⟨rfl, h⟩
  · simp only [Bool.not_true, Bool.false_eq_true, if_false]
    cases hf : cache.find? (fun e => e.1 == input) with
    | some e =>
      have hm := List.mem_of_find?_eq_some hf
      have hk : e.1 = input := by simpa using List.find?_some hf
      exact ⟨by simp only []; rw [← hk]; exact (h e hm).symm, h⟩
    | none =>
      cases hp : parse input with
      | none => exact ⟨rfl, h⟩
      | some t =>
        refine ⟨rfl, ?_⟩
        intro e he
        rcases List.mem_append.mp he with he | he
        · exact h e he
        · simp at he; subst he; exact hp

theorem C13_cache_history {T : Type} (parse : Bytes → Option T) (enabled : Bool) :
    ∀ (inputs : List Bytes) (cache : List (Bytes × T)), CacheOk parse cache →
      ∀ input, (cacheParse parse enabled (inputs.foldl (fun c i => (cacheParse parse enabled c i).2) cache) input).1
        = parse input := by
  intro inputs
  induction inputs with
  | nil => intro cache h input; exact (C13_cache parse enabled cache input h).1
  | cons i rest ih =>
    intro cache h input
    exact ih _ (C13_cache parse enabled cache i h).2 input

/-- Evaluation never modifies the template sources it renders from: the partial feeder (the model's stand-in for
    the templates a render can reach) is the same after any evaluator function as before it — on success, on
    error, on a fatal outcome; for every program, data and fuel (`Lib/EvalKeepsFeeder.lean`). (The parsed program
    itself is an immutable value in the model; that the Go evaluator does not write to AST nodes is the generated
    fact `Gen.astWriteSites`, `C13_no_ast_writes`.) -/
theorem C13_sources_immutable (fuel : Nat) : AllKF fuel := allKF fuel

/-- instance: a whole render -/
theorem C13_render_keeps_sources (fuel : Nat) (src : Bytes) (ctx : Nat) (s : ES) :
    (renderIn fuel src ctx s).2.feeder = s.feeder := ((allKF fuel).renderIn src ctx).same s

end Plush
