import PlushModel
/-!
  C14 — shared templates, the cache and contexts are safe under concurrent use (the LOGIC part).
  `Gen.contextOps`, `Gen.cacheOps`, `Gen.astWriteSites`, … are TRANSLATED from /repo on every run: per
  function the lock/unlock events and the accesses to the shared location, in source order.
  What the model cannot exhibit: weak-memory reorderings and the interleavings inside user-supplied
  helpers; those are explored with the race detector (oracle C14).
-/
namespace Plush
open Gen

/-- walk one thread's events: `none` = an access to `loc` outside a critical section of `m` (or a
    lock taken twice / released while not held); `some h` = fine, ending with "m held" = h -/
def lockCheck (m loc : String) : Bool → List Ev → Option Bool
  | h, [] => some h
  | h, .lock m' :: rest => if m' = m then (if h then none else lockCheck m loc true rest) else lockCheck m loc h rest
  | h, .unlock m' :: rest => if m' = m then (if h then lockCheck m loc false rest else none) else lockCheck m loc h rest
  | h, .rd l :: rest => if l = loc ∧ h = false then none else lockCheck m loc h rest
  | h, .wr l :: rest => if l = loc ∧ h = false then none else lockCheck m loc h rest

/-- an operation is disciplined when, entered without the mutex, it accesses `loc` only under it and
    leaves without it -/
def Disciplined (ops : List (String × List Ev)) (loc m : String) : Prop :=
  ∀ op ∈ ops, lockCheck m loc false op.2 = some false

instance (ops loc m) : Decidable (Disciplined ops loc m) := by unfold Disciplined; exact inferInstance

/-- context.go: Set, Value (hence Has and New) and export touch `c.data` only under `c.moot` -/
theorem C14_context : Disciplined contextOps "Context.data" "Context.moot" := by decide

/-- plush.go: the template cache is read and written only under the package mutex -/
theorem C14_cache : Disciplined cacheOps "cache" "plush.moot" := by decide

/-- the evaluator never assigns through an AST-typed variable, assigns `Template.program` only in Parse
    (which `NewTemplate` runs before any Exec), and writes no package-level variable: executions share only
    read-only data -/
theorem C14_exec_writes_local :
    astWriteSites = [] ∧ programWriteSites = ["Parse"] ∧ packageVarWriteSites = [] := by decide

theorem lockCheck_append (m loc : String) : ∀ (a : List Ev) (h : Bool) (c : List Ev),
    lockCheck m loc h (a ++ c) = (lockCheck m loc h a).bind (fun h' => lockCheck m loc h' c) := by
  intro a
  induction a with
  | nil => intro h c; rfl
  | cons e rest ih =>
    intro h c
    cases e <;> simp only [List.cons_append, lockCheck] <;> (repeat' split) <;> first | exact ih _ _ | simp

theorem disciplined_seq (ops : List (String × List Ev)) (loc m : String) (hd : Disciplined ops loc m) :
    ∀ (calls : List (String × List Ev)), (∀ c ∈ calls, c ∈ ops) →
      lockCheck m loc false (calls.flatMap (·.2)) = some false := by
  intro calls
  induction calls with
  | nil => intro _; rfl
  | cons c rest ih =>
    intro hmem
    simp only [List.flatMap_cons, lockCheck_append]
    rw [hd c (hmem c (by simp))]
    exact ih (fun x hx => hmem x (by simp [hx]))

structure St where
  progs : Nat → List Ev            -- remaining program of each thread (any number of threads)
  holder : String → Option Nat     -- mutex ↦ holding thread

inductive Step : St → St → Prop
  | lock (s t m rest) : s.progs t = .lock m :: rest → s.holder m = none →
      Step s { progs := fun u => if u = t then rest else s.progs u,
               holder := fun m' => if m' = m then some t else s.holder m' }
  | unlock (s t m rest) : s.progs t = .unlock m :: rest → s.holder m = some t →
      Step s { progs := fun u => if u = t then rest else s.progs u,
               holder := fun m' => if m' = m then none else s.holder m' }
  | rd (s t l rest) : s.progs t = .rd l :: rest →
      Step s { s with progs := fun u => if u = t then rest else s.progs u }
  | wr (s t l rest) : s.progs t = .wr l :: rest →
      Step s { s with progs := fun u => if u = t then rest else s.progs u }

inductive Reach (s0 : St) : St → Prop
  | refl : Reach s0 s0
  | step {s s'} : Reach s0 s → Step s s' → Reach s0 s'

def accesses (loc : String) : List Ev → Bool
  | .rd l :: _ => l = loc
  | .wr l :: _ => l = loc
  | _ => false
def writes (loc : String) : List Ev → Bool
  | .wr l :: _ => l = loc
  | _ => false

/-- two different threads are both about to access `loc`, one of them writing -/
def Race (loc : String) (s : St) : Prop :=
  ∃ t u, t ≠ u ∧ accesses loc (s.progs t) = true ∧ accesses loc (s.progs u) = true ∧
    (writes loc (s.progs t) = true ∨ writes loc (s.progs u) = true)

/-- invariant: every thread's remaining program passes the check from its current "holds m" state -/
def LInv (m loc : String) (s : St) : Prop :=
  ∀ t, (lockCheck m loc (s.holder m == some t) (s.progs t)).isSome = true

theorem inv_step {m loc : String} {s s' : St} (hi : LInv m loc s) (hs : Step s s') : LInv m loc s' := by
  intro u
  have hu := hi u
  cases hs with
  | lock t m' rest hp hh | unlock t m' rest hp hh =>
    by_cases hut : u = t
    · -- the thread that moved: its check goes on from the state the event leaves
      subst hut
      simp only
      rw [hp] at hu; simp only [lockCheck] at hu
      by_cases hm : m' = m
      · subst hm
        simp only [if_true] at hu ⊢
        rw [hh] at hu
        simpa using hu
      · simp only [if_neg hm] at hu
        simp only [if_neg (Ne.symm hm)]; exact hu
    · -- another thread: it held `m` neither before nor after
      simp only [if_neg hut]
      by_cases hm : m = m'
      · subst hm
        have hne : (t == u) = false := by simp; exact fun h => hut h.symm
        rw [hh] at hu
        simp only [if_true]
        simpa [hne] using hu
      · simp only [if_neg hm]; exact hu
  | rd t l rest hp | wr t l rest hp =>
    by_cases hut : u = t
    · subst hut; simp only; rw [hp] at hu
      simp only [lockCheck] at hu
      split at hu
      · simp at hu
      · exact hu
    · simp only [if_neg hut]; exact hu

theorem check_access {m loc : String} {h : Bool} {p : List Ev}
    (hok : (lockCheck m loc h p).isSome = true) (ha : accesses loc p = true) : h = true := by
  cases p with
  | nil => simp [accesses] at ha
  | cons e rest =>
    cases e <;> simp [accesses] at ha
    all_goals
      subst ha
      simp only [lockCheck] at hok
      cases h
      · simp at hok
      · rfl

/-- LOCKSET SOUNDNESS: for any number of threads, any programs and any schedule, if every access to `loc` happens
    while the mutex `m` is held (`LInv` at the start), no reachable configuration has two threads about to access `loc`
    with one of them writing -/
theorem lockset_sound (m loc : String) (s0 s : St) (h0 : LInv m loc s0) (hr : Reach s0 s) : ¬ Race loc s := by
  have hinv : LInv m loc s := by
    induction hr with
    | refl => exact h0
    | step _ hs ih => exact inv_step ih hs
  rintro ⟨t, u, htu, hat, hau, _⟩
  have h1 := check_access (hinv t) hat
  have h2 := check_access (hinv u) hau
  simp at h1 h2
  rw [h1] at h2; injection h2 with h2; exact htu h2

/-- disciplined operations never race: whatever sequences of operations from `ops` each of any number of threads
    performs, in any interleaving (`disciplined_seq` starts the invariant, `lockset_sound` keeps it) -/
theorem disciplined_race_free {ops : List (String × List Ev)} {loc m : String} (hd : Disciplined ops loc m)
    (calls : Nat → List (String × List Ev)) (hc : ∀ t, ∀ c ∈ calls t, c ∈ ops)
    (s : St) (hr : Reach { progs := fun t => (calls t).flatMap (·.2), holder := fun _ => none } s) : ¬ Race loc s := by
  refine lockset_sound m loc _ s (fun t => ?_) hr
  simp [disciplined_seq ops loc m hd (calls t) (hc t)]

/-- COROLLARY for Context: whatever sequences of Set / Value / Has / New / export each of any number of
    goroutines performs on one context, in any interleaving, there is never a data race on its map -/
theorem C14_context_race_free (calls : Nat → List (String × List Ev)) (hc : ∀ t, ∀ c ∈ calls t, c ∈ contextOps)
    (s : St) (hr : Reach { progs := fun t => (calls t).flatMap (·.2), holder := fun _ => none } s) :
    ¬ Race "Context.data" s :=
  disciplined_race_free C14_context calls hc s hr

theorem C14_cache_race_free (calls : Nat → List (String × List Ev)) (hc : ∀ t, ∀ c ∈ calls t, c ∈ cacheOps)
    (s : St) (hr : Reach { progs := fun t => (calls t).flatMap (·.2), holder := fun _ => none } s) :
    ¬ Race "cache" s :=
  disciplined_race_free C14_cache calls hc s hr

def iterN {α} (f : α → α) : Nat → α → α
  | 0, a => a
  | n+1, a => iterN f n (f a)

/-- ISOLATION: a thread that only reads shared state and writes its own local state ends, under any
    schedule, in the local state it reaches when run alone (its steps do not depend on the others') -/
theorem C14_isolation {L S : Type} (step : L → S → L) (shared : S) (sched : List Nat) (t : Nat) :
    ∀ (init : Nat → L),
    (sched.foldl (fun (st : Nat → L) u => fun v => if v = u then step (st u) shared else st v) init) t
      = iterN (fun l => step l shared) (sched.count t) (init t) := by
  induction sched with
  | nil => intro init; rfl
  | cons u rest ih =>
    intro init
    simp only [List.foldl_cons]
    rw [ih]
    by_cases h : u = t
    · subst h
      simp [iterN]
    · have h' : ¬ t = u := fun e => h e.symm
      simp [h, h']

end Plush
