import PlushModel
import PlushProofs.Lib.LexerTotal
import PlushProofs.Lib.ParserErrLines
import PlushProofs.Props.C05
import PlushProofs.Lib.EvalErrLines
/-!
  C15 — every template error names the line of the failing tag, invariant under shifting.
  Line tracking lives in the lexer (`readChar` bumps the counter on every LF it consumes; a token is
  stamped with the line it starts on), parser messages carry the current token's line, and `compile`
  prefixes runtime errors with the line of the innermost statement still being evaluated.
-/
namespace Plush
open EM

/-- the counter goes up by exactly one per consumed newline, in every scanning loop (they all advance
    through `readChar`) -/
theorem C15_readChar_line (l : LX) :
    l.readChar.line = l.line + (if l.input.getD l.rp 0 = 10 then 1 else 0) := by
  simp only [LX.readChar]
  split <;> simp_all

theorem C15_readChar_advances (l : LX) : l.readChar.rp = l.rp + 1 ∧ l.readChar.pos = l.rp :=
  ⟨LX.readChar_rp l, LX.readChar_pos l⟩

/-- every parser message carries a line: `errHere` stamps the current token's line -/
theorem C15_parser_errors_have_line (kind : String) (s : PS) :
    (P.errHere kind).run s = .ok ((), { s with errs := s.errs.push { line := some (P.tokAt s s.pos).line, kind := kind } }) :=
  P.run_of_OK ((P.OK_errHere ..).mpr rfl)

/-- integer literals that do not fit: the message has the line prefix too (on the unchanged tree it has none:
    DESIGN §13.3) -/
theorem C15_bad_int_has_line (fuel : Nat) (s : PS) (h : P.atoi (P.tokAt s s.pos).lit = none) :
    (P.runPrefix (fuel + 1) .parseIntegerLiteral).run s =
      .ok (none, { s with errs := s.errs.push { line := some (P.tokAt s s.pos).line, kind := "could-not-parse-integer" } }) := by
  apply P.run_of_OK
  rw [P.runPrefix_eq]
  wp_simp
  simp only [h]
  wp_simp

/-- a runtime error in the expression of an output statement leaves `compile` with a line: that of the innermost
    statement still being evaluated, else of the output statement itself (from `C05_compile_error`; for every
    statement form: `C15_compile_errors_name_a_line`) -/
theorem C15_runtime_errors_have_line (fuel : Nat) (t : Token) (e : Option Expr) (rest : List Stmt) (out : Bytes)
    (s s1 : ES) (er : Err) (h : evalExpr fuel e ({ s with curStmt := none }) = (.err er, s1)) :
    ∃ line er', compileStmts (fuel + 1) (.ret true t e :: rest) out s = (.err er', s1) ∧ er'.line = some line :=
  ⟨_, _, C05_compile_error fuel t e rest out s s1 er h, rfl⟩

/-- a statement that completed is no longer blamed: after it, the enclosing statement is current again -/
theorem C15_curStmt_restored (fuel : Nat) (st : Stmt) (s s1 : ES) (v : Val)
    (h : evalStmtBody fuel st ({ s with curStmt := some st.tok.line }) = (.ok v, s1)) :
    evalStmt (fuel + 1) st s = (.ok v, { s1 with curStmt := s.curStmt }) := by
  simp [evalStmt, bind, getS, modifyS, h, pure]

/-- a statement that failed stays current, so `compile` reports ITS line -/
theorem C15_curStmt_kept_on_error (fuel : Nat) (st : Stmt) (s s1 : ES) (e : Err)
    (h : evalStmtBody fuel st ({ s with curStmt := some st.tok.line }) = (.err e, s1)) :
    evalStmt (fuel + 1) st s = (.err e, s1) := by
  simp [evalStmt, bind, getS, modifyS, h]

/-- THE LINE COUNTER IS EXACT, for every input and after any number of `NextToken` calls: `curLine` equals
    1 + the number of line feeds among the bytes consumed so far (text, tags, strings, comments alike) — part
    of the lexer invariant `LX.WF` that Theorem A maintains. -/
theorem C15_line_counter_exact (input : Array UInt8) (n : Nat) :
    (stateAfter n (LX.new input)).line =
      1 + LX.countLF input ((stateAfter n (LX.new input)).pos + 1) := by
  have a := stateAfter_adv n (LX.new input) (LX.new_wf input)
  have := a.wf.ln
  rw [a.input] at this
  exact this

/-- A TOKEN INSIDE A TAG CARRIES THE LINE IT STARTS ON: 1 + the number of line feeds in front of its first byte
    (`tokStart`: after whitespace and `#` comments), however many lines the token itself or its look-ahead spans. -/
theorem C15_token_line (l : LX) (w : l.WF) :
    (LX.nextInsideToken (l.input.size + 2) l).1.line = 1 + LX.countLF l.input (LX.tokStart (l.input.size + 2) l) :=
  LX.inside_token_line _ l w (by omega)

/-- SHIFT INVARIANCE at the scanner: two scanner states that see the same bytes ahead (any two inputs, any
    offsets) produce tokens whose line numbers differ by exactly the difference of the two line counters. So
    whatever is inserted in front of a tag moves every later token's line by the number of line feeds inserted —
    text, tags, strings and comments alike — and changes nothing else about the tokens (`C18_suffix_determinism`). -/
theorem C15_shift_scanner (l l' : LX) (hs : LX.Sim l l') :
    ((LX.nextInsideToken (l'.input.size + 2) l').1.line : Int) - (LX.nextInsideToken (l.input.size + 2) l).1.line
      = (l'.line : Int) - l.line := by
  have hf : l.input.size - l.pos < l.input.size + 2 := by omega
  have hf' : l'.input.size - l'.pos < l'.input.size + 2 := by omega
  obtain ⟨k, -, -, -, -, e, -, e'⟩ := LX.nextInsideToken_scan hs hf hf'
  rw [LX.inside_token_line _ l hs.wf hf, LX.inside_token_line _ l' hs.wf' hf', e, e', hs.wf.ln, hs.wf'.ln]
  -- both tokens start `k` bytes on; the line feeds in a window depend only on its bytes: the window of those `k` bytes,
  -- and the one byte under the cursor that `line` has already counted
  have w1 := LX.countLF_window hs.toView k
  have w0 := LX.countLF_window hs.toView 1
  omega

/-- EVERY SYNTAX ERROR NAMES A LINE, for every source text: each error the parser records carries a line number
    (the `line N:` prefix). An instance (`Lib/ParserErrLines.lean`) of the walk over all twenty parse functions
    (`Lib/ParserWalk.lean`): no path adds an error without a line. -/
theorem C15_syntax_errors_name_a_line (src : Bytes) (prog : Program) (errs : Array PErr)
    (h : parseBytes src = .ok (prog, errs)) : ∀ e ∈ errs.toList, e.line.isSome = true :=
  parse_errors_have_lines src prog errs h

/-- EVERY ERROR THAT LEAVES `compile` CARRIES A LINE, for every statement list, every data, every fuel: whatever
    the statement's evaluation did (all 27 evaluator functions, helpers, partials), `compile` stamps the error
    before it leaves — with the line of the innermost statement still being evaluated, else of the top-level
    statement. -/
theorem C15_compile_errors_name_a_line (fuel : Nat) (stmts : List Stmt) (out : Bytes) (s s' : ES) (e : Err)
    (h : compileStmts fuel stmts out s = (.err e, s')) : e.line.isSome = true :=
  compileStmts_errors_lined fuel stmts out s e s' h

/-- END TO END: every error returned by a render of ANY source text in ANY context names a line — a syntax
    error by `C15_syntax_errors_name_a_line`, a runtime error by `C15_compile_errors_name_a_line`. -/
theorem C15_render_errors_name_a_line (fuel : Nat) (src : Bytes) (ctx : Nat) (s s' : ES) (e : Err)
    (h : renderIn fuel src ctx s = (.err e, s')) : e.line.isSome = true :=
  renderIn_errors_lined fuel src ctx s e s' h

end Plush
