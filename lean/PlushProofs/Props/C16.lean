import PlushModel
import PlushModel.Gen.EvalDispatch
import PlushProofs.Lib.EvalRun
/-!
  C16 — user-defined functions bind parameters to argument values and return their value.
  Theorems about `evalUserFn` / `unwrapReturn` (the model of evalUserFunction as it is after fix 9adac83),
  tied to /repo by the `render-gen` stream (user functions with if/return chains, recursion through `let`).
-/
namespace Plush
open EM

/-- too few arguments: an error, nothing is evaluated, no scope is created -/
theorem C16_arity (fuel : Nat) (ps : List Ident) (body : Block) (args : List (Option Expr)) (s : ES)
    (h : args.length < ps.length) :
    evalUserFn (fuel + 1) ps body args s = (.err { kind := "too-few-arguments" }, s) :=
  evalUserFn_too_few fuel ps body args s h

/-- the arguments are evaluated in the caller's scope, before any parameter is bound: if evaluating them
    fails, that is the result and nothing else happens — no scope is opened -/
theorem C16_args_in_caller_scope (fuel : Nat) (ps : List Ident) (body : Block) (args : List (Option Expr))
    (s s1 : ES) (e : Err) (hlen : ¬ args.length < ps.length)
    (h : evalExprs fuel (args.take ps.length) s = (.err e, s1)) :
    evalUserFn (fuel + 1) ps body args s = (.err e, s1) := by
  rw [evalUserFn, if_neg hlen]; exact bind_err h

/-- … and when they evaluate to `vals`, the body runs in a FRESH child of the caller's scope in which
    exactly the parameters are bound to those values (`withCtx` makes the caller's scope current again
    afterwards), and the call's value is the unwrapped result of the body -/
theorem C16_call (fuel : Nat) (ps : List Ident) (body : Block) (args : List (Option Expr))
    (s s1 : ES) (vals : List Val) (hlen : ¬ args.length < ps.length)
    (h : evalExprs fuel (args.take ps.length) s = (.ok vals, s1)) :
    evalUserFn (fuel + 1) ps body args s =
      (do
        let octx ← getCur
        let c ← ctxNewChild octx
        let r ← withCtx c (fnBody fuel ps vals body)
        pure (unwrapReturn r)) s1 := by
  rw [evalUserFn, if_neg hlen]; exact bind_ok h

/-- the body of the call: the parameters are bound, in order, to the argument values — in the call's own
    scope — and then the function's block is evaluated -/
theorem C16_body (fuel : Nat) (ps : List Ident) (vals : List Val) (body : Block) :
    fnBody (fuel + 1) ps vals body = (do
      (ps.zip vals).forM fun (p, v) => ctxSet p.value v
      evalBlock fuel body) := by
  simp [fnBody]

mutual
theorem flattenRet_noRet : ∀ (v : Val), ∀ x ∈ flattenRet v, ∀ vs, x ≠ .ret vs := by
  intro v
  cases v with
  | ret vs => intro x hx; rw [flattenRet] at hx; exact flattenRets_noRet vs x hx
  | _ => intro x hx ws; simp only [flattenRet, List.mem_singleton] at hx; subst hx; exact Val.noConfusion
theorem flattenRets_noRet : ∀ (vs : List Val), ∀ x ∈ flattenRets vs, ∀ ws, x ≠ .ret ws
  | [], x, hx, ws => by simp [flattenRets] at hx
  | v :: r, x, hx, ws => by
    simp only [flattenRets, List.mem_append] at hx
    rcases hx with hx | hx
    · exact flattenRet_noRet v x hx ws
    · exact flattenRets_noRet r x hx ws
end

/-- the value of a call is a plain value — never a return wrapper — so it can be emitted, tested,
    compared and passed on like any other value -/
theorem C16_value_is_plain (v : Val) : ∀ vs, unwrapReturn v ≠ .ret vs := by
  intro vs
  unfold unwrapReturn
  split
  · rename_i ws
    split
    · rename_i x hx
      have : x ∈ flattenRet (.ret ws) := by rw [hx]; simp
      exact flattenRet_noRet _ x this vs
    · simp
  · rename_i h; exact fun e => h vs e

theorem flattenRet_plain (x : Val) (hx : ∀ vs, x ≠ .ret vs) : flattenRet x = [x] := by
  cases x <;> first | rfl | exact absurd rfl (hx _)

/-- `return x` reached directly in the body: the call's value is x itself -/
theorem C16_return_value (x : Val) (hx : ∀ vs, x ≠ .ret vs) : unwrapReturn (.ret [.ret [x]]) = x := by
  simp [unwrapReturn, flattenRet, flattenRets, flattenRet_plain x hx]

/-- … also through nested blocks (`if` inside the body wraps once more per level) -/
theorem C16_return_value_nested (x : Val) (hx : ∀ vs, x ≠ .ret vs) :
    unwrapReturn (.ret [.ret [.ret [.ret [x]]]]) = x := by
  simp [unwrapReturn, flattenRet, flattenRets, flattenRet_plain x hx]

/-- a statement after the `return` that is reached is not evaluated: the block ends there -/
theorem C16_return_skips_rest (fuel : Nat) (st : Stmt) (rest : List Stmt) (acc vs : List Val) (s s1 : ES)
    (h : evalStmt fuel st s = (.ok (.ret vs), s1)) :
    evalStmts (fuel + 1) (st :: rest) acc s = (.ok (.ret (acc ++ [.ret vs])), s1) := by
  rw [evalStmts, bind_ok h]; rfl

/-- The fresh scope of a function call (and of a loop, and of an index tail) is opened unconditionally: in /repo the
    statement `c.ctx = ….New()` sits in the function body itself, not under an `if` (block depth 0; re-read on every
    run) — and every scope switch restores by `defer` (`C09_every_scope_switch_is_deferred`). The model opens the
    child scope unconditionally too (`C16_call`). A scope opened only for some arities (seeded change C16-i: not
    for zero parameters) changes the depth. -/
theorem C16_scope_opened_unconditionally :
    Gen.scopeOpenDepths = [("evalUserFunction", 0), ("evalForExpression", 0), ("evalIndexCallee", 0)] := rfl

end Plush
