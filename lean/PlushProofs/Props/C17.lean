import PlushModel
import PlushProofs.Props.C01
import PlushProofs.Props.C09
/-!
  C17 — rendering via partial / layout / contentFor / block helpers equals rendering inline.
  Models: `partialHelper`, `blockWith`, the `contentFor` / `contentOf` arms of `callHelper`, `renderIn`
  (PlushModel/Eval.lean), tied to /repo by the `render-gen` stream (partials with data and layouts,
  contentFor / contentOf with data and default blocks, block helpers) and the C17 oracle.
-/
namespace Plush
open EM

/-- a block helper receives exactly what its block renders to: the block is evaluated once, in the given
    context, and its value goes through the output sink -/
theorem C17_block (fuel : Nat) (bl : Block) (ctx : Nat) :
    blockWith (fuel + 1) (some bl) ctx = (do let v ← withCtx ctx (evalBlock fuel bl); renderVal v) :=
  C09_blockWith_shape fuel bl ctx

/-- no block: an error, not an empty string -/
theorem C17_no_block (fuel : Nat) (ctx : Nat) (s : ES) :
    blockWith (fuel + 1) none ctx s = (.err { kind := "no-block-defined" }, s) := by
  simp [blockWith, fail, throwErr]

/-- contentFor emits nothing where it is defined: its value is nil, which the sink writes as nothing; it
    only stores the block (with the defining context) under "contentFor:<name>" -/
theorem C17_contentFor_silent (fuel : Nat) (nm : Bytes) (c : Nat) (blk : Option Block) (s : ES) :
    callHelper (fuel + 1) "contentFor" [.str nm, .hctx c blk] s =
      (.ok .nil, { s with store := s.store.set c (b "contentFor:" ++ nm) (.closure blk c),
                          trace := s.trace.push "contentFor" }) := by
  rw [callHelper]; rfl

theorem C17_nil_writes_nothing (h : HeapView) (f : Nat) : writeVal h (f + 1) .nil = some [] := rfl

/-- typed HTML — what partial / contentOf / a block helper return (`.html` in `partialHelper`, `callHelper`) — is
    inserted by the output tag unescaped, exactly once (`C01_write_html`): already-rendered text is not escaped again -/
theorem C17_inserted_once (h : HeapView) (f : Nat) (body : Bytes) :
    writeVal h (f + 1) (.html body) = some [.trusted body] ∧ flattenChunks [.trusted body] = body := by
  constructor
  · rfl
  · simp [flattenChunks, Chunk.flatten]

/-- a missing contentOf name without a default block is an error (wrapped by the call site) -/
theorem C17_contentOf_missing (fuel : Nat) (nm : Bytes) (da c : Nat) (s : ES) (es : List (Val × Val))
    (hd : s.heap[da]? = some (.map es))
    (hmiss : ∀ blk cc, s.store.value c (b "contentFor:" ++ nm) ≠ .closure blk cc) :
    callHelper (fuel + 1) "contentOf" [.str nm, .map .string .any da, .hctx c none] s
      = (.err { kind := "helper-failed" }, { s with trace := s.trace.push "contentOf" }) := by
  rw [callHelper]
  -- the call is traced, the data map is read, the name is looked up in the helper's context
  show (heapMap da >>= _) { s with trace := s.trace.push "contentOf" } = _
  rw [bind_ok (heapMap_run (s := { s with trace := s.trace.push "contentOf" }) hd), getS_bind]
  dsimp only
  generalize s.store.value c (b "contentFor:" ++ nm) = v at *
  cases v <;> first | exact absurd rfl (hmiss _ _) | rfl

end Plush
