import PlushModel
import PlushProofs.Lib.LexerSim
import PlushProofs.Lib.TokenAt
import PlushProofs.Lib.ParserTotal
/-!
  C18 — layout inside code tags is insignificant: whitespace, comments, tag splitting.
  `Gen.isWhitespace`, `Gen.isLetter`, `Gen.isDigit` are TRANSLATED from lexer.go on every run.
  The parser half (statement boundaries: S_START / E_END are skipped inside blocks, the cursor stays on a
  closing brace) is PlushModel/Parser.lean, tied by `parse-tok`; the metamorphic oracle C18 compares
  layouts on the implementation.
-/
namespace Plush
open Gen

/-- what separates tokens inside a tag is exactly space, tab, LF and CR -/
theorem C18_whitespace (c : UInt8) : isWhitespace c = true ↔ c = 32 ∨ c = 9 ∨ c = 10 ∨ c = 13 := by
  simp [isWhitespace, or_assoc]

/-- THE EXCEPTION of the property: '-' continues an identifier and '.' continues an identifier, a path or
    a number, so they fuse with adjacent letters / digits (no operator or delimiter byte does:
    `C18_punctuation_separates`) -/
theorem C18_exception : isLetter 45 = true ∧ isDigit 46 = true ∧ isDot 46 = true := by decide

/-- operator and delimiter bytes never continue an identifier or a number: they always start a new token,
    so whitespace next to them is optional -/
theorem C18_punctuation_separates :
    ∀ c ∈ ([40, 41, 91, 93, 123, 125, 44, 58, 59, 43, 42, 47, 60, 62, 61, 33, 38, 124, 126, 34, 96, 35, 37, 32, 9, 10, 13] : List UInt8),
      (isLetter c || isDigit c) = false := by decide

/-- skipping whitespace stops at the first non-blank byte and is idempotent there -/
theorem C18_skipWs_stops (fuel : Nat) (l : LX) (h : isWhitespace l.ch = false) : LX.skipWsLoop (fuel + 1) l = l := by
  simp [LX.skipWsLoop, h]

theorem C18_skipWs_step (fuel : Nat) (l : LX) (h : isWhitespace l.ch = true) :
    LX.skipWsLoop (fuel + 1) l = LX.skipWsLoop fuel l.readChar := by
  simp [LX.skipWsLoop, h]

/-- a `#` line comment stops ON the first LF or CR: the line end is not consumed by the comment loop -/
theorem C18_comment_stops_at_eol (fuel : Nat) (l : LX) (h0 : l.ch ≠ 0)
    (h : l.readChar.ch = 10 ∨ l.readChar.ch = 13) : LX.skipLineComment (fuel + 1) l = l.readChar := by
  have : (l.ch != 0) = true := by simpa using h0
  rcases h with h | h <;> simp only [LX.skipLineComment, this, h, if_true] <;> simp

/-- inside a block, tag delimiters between statements are skipped: splitting or merging tags does not
    change the statement list (`blockLoop` on S_START / E_END just advances) -/
theorem C18_tag_delims_skipped (fuel : Nat) (acc : List Stmt) (s : PS)
    (h : (P.tokAt s s.pos).type = .S_START ∨ (P.tokAt s s.pos).type = .E_END) :
    (P.blockLoop (fuel + 1) acc).run s = (P.blockLoop fuel acc).run { s with pos := s.pos + 1 } := by
  rcases h with h | h <;>
    simp [P.blockLoop, P.cur, P.nextTok, h, bind, StateT.bind, StateT.run, get, getThe, MonadStateOf.get,
      StateT.get, pure, StateT.pure, Except.pure, Except.bind, modify, modifyGet, MonadStateOf.modifyGet,
      StateT.modifyGet]

/-- `;` after a statement is optional: it is consumed when present and nothing changes otherwise -/
theorem C18_semicolon_optional (s : PS) :
    P.skipSemicolon.run s =
      .ok ((), if (P.tokAt s (s.pos + 1)).type = .SEMICOLON then { s with pos := s.pos + 1 } else s) := by
  apply P.run_of_OK
  rw [P.OK_skipSemicolon]
  split <;> simp_all

/-- SUFFIX DETERMINISM. Inside a tag, two scanner states — over different inputs, at different offsets, on different
    lines — that see the same bytes ahead (`LX.Sim`) produce the same token (type and text; the line number is the
    one thing that may differ) and again see the same bytes ahead. -/
theorem C18_suffix_determinism (l l' : LX) (hs : LX.Sim l l') :
    LX.TokSim (LX.nextInsideToken (l.input.size + 2) l) (LX.nextInsideToken (l'.input.size + 2) l') :=
  LX.nextInsideToken_sim _ _ l l' hs (by omega) (by omega)

/-- LAYOUT IS INSIGNIFICANT INSIDE A TAG (scanner level): any run of spaces, tabs, line ends and `#` line
    comments in front of a token (`LX.Layout l m`: from `l`, skipping such a run, one arrives at `m`) changes
    neither the token nor what follows. -/
theorem C18_layout_insignificant (l m : LX) (h : LX.Layout l m) (w : l.WF) :
    LX.TokSim (LX.nextInsideToken (l.input.size + 2) l) (LX.nextInsideToken (m.input.size + 2) m) :=
  LX.layout_insignificant h _ _ w (by omega) (by omega)

/-- across two templates: different layout in front of the same remaining text gives the same token (type and text) -/
theorem C18_layout_two_templates (l m l' m' : LX) (h : LX.Layout l m) (h' : LX.Layout l' m') (w : l.WF) (w' : l'.WF)
    (hs : LX.Sim m m') :
    (LX.nextInsideToken (l.input.size + 2) l).1.type = (LX.nextInsideToken (l'.input.size + 2) l').1.type ∧
    (LX.nextInsideToken (l.input.size + 2) l).1.lit = (LX.nextInsideToken (l'.input.size + 2) l').1.lit := by
  rw [LX.layout_eq h _ (m.input.size + 2) w (by omega) (by omega),
    LX.layout_eq h' _ (m'.input.size + 2) w' (by omega) (by omega)]
  exact ⟨(C18_suffix_determinism m m' hs).1, (C18_suffix_determinism m m' hs).2.1⟩

-- non-vacuity: in ` \n# c\nab` (inside a tag) the layout run ` \n# c\n` leads from offset 0 to the `a` at offset 6
def c18DemoStart : LX := { (LX.new #[32, 10, 35, 32, 99, 10, 97, 98]) with inside := true }
def c18DemoEnd : LX := (LX.skipLineComment 10 c18DemoStart.readChar.readChar).readChar

example : LX.Layout c18DemoStart c18DemoEnd ∧ c18DemoEnd.pos = 6 ∧ c18DemoEnd.ch = 97 := by
  refine ⟨?_, by decide, by decide⟩
  apply LX.Layout.ws _ _ (by decide)
  apply LX.Layout.ws _ _ (by decide)
  apply LX.Layout.comment _ _ (by decide)
  apply LX.Layout.ws _ _ (by decide)
  exact LX.Layout.here _

/-- WHAT IS INSIDE A STRING LITERAL IS INERT: whatever the content `c` (no NUL, no backslash) of a double-quoted string is —
    `%>`, `<%`, `#`, newlines, braces, semicolons — the scanner comes out of the string exactly one byte after its closing quote and is
    still in code mode: nothing inside was taken for a tag delimiter, a comment or a statement boundary. -/
theorem C18_string_contents_are_inert (l : LX) (w : l.WF) (hin : l.inside = true) (hch : l.ch = 34)
    (c : Bytes) (hno : ∀ x ∈ c, x ≠ 0 ∧ x ≠ 92) (hs : LX.Spells l.input (l.pos + 1) (LX.escQ c ++ [34])) :
    l.nextToken.2.pos = l.pos + 2 + (LX.escQ c).length ∧ l.nextToken.2.inside = true ∧ l.nextToken.1.type = .STRING :=
  have h := LX.nextToken_string l w hin hch c hno hs
  ⟨h.2.1, h.2.2.1, by rw [h.1]⟩

/-- what is inside a back-quoted string is inert: the scanner comes out of it one byte after the closing back quote,
    still in code mode -/
theorem C18_raw_string_contents_are_inert (l : LX) (w : l.WF) (hin : l.inside = true) (hch : l.ch = 96) (e : Nat)
    (hlt : l.pos < e) (hcl : l.input.getD e 0 = 96)
    (hb : ∀ i, l.pos < i → i < e → l.input.getD i 0 ≠ 96 ∧ l.input.getD i 0 ≠ 0) :
    l.nextToken.2.pos = e + 1 ∧ l.nextToken.2.inside = true ∧ l.nextToken.1.type = .B_STRING :=
  have h := LX.nextToken_bstring l w hin hch e hlt hcl hb
  ⟨h.2.1, h.2.2.1, by rw [h.1]⟩

end Plush
