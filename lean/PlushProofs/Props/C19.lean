import PlushModel
/-!
  C19 — iterator and collection helpers produce exact sequences and partitions.
  `Gen.Helpers.*` / `Gen.Root.*` are TRANSLATED from /repo/helpers/iterators and /repo/iterators.go on
  every run, so every run re-checks these theorems against the code. Go's `int` is the
  range `[minInt, maxInt]` of `Int` with `wrap64` on every + and -.
  `groupBy` is not translated: it is the model of PlushModel/Helpers.lean, Go's reflective slicing on
  lists (tied by the `render-gen` stream and the oracle); the `C19_groupBy_*` theorems are its partition laws.
-/
namespace Plush
open Gen

def inRange (x : Int) : Prop := minInt ≤ x ∧ x ≤ maxInt

theorem wrap64_id (x : Int) (h : inRange x) : wrap64 x = x := by
  unfold inRange minInt maxInt at h
  simp only [wrap64]
  omega

/-- the values a ranger yields until its first `nil`, looking at most `fuel` times -/
def drain (next : Ranger → Ranger × Option Int) : Nat → Ranger → List Int
  | 0, _ => []
  | fuel+1, r => match next r with
    | (r', some v) => v :: drain next fuel r'
    | (_, none) => []

def interval (lo : Int) : Nat → List Int
  | 0 => []
  | n+1 => lo :: interval (lo + 1) n

/-- length of the closed interval a..b (0 when b < a) -/
def span (a b : Int) : Nat := (b - a + 1).toNat

theorem drain_done (fuel : Nat) (r : Ranger) (h : r.done = true) : drain Helpers.next fuel r = [] := by
  cases fuel with
  | zero => rfl
  | succ n => simp [drain, Helpers.next, h]

/-- core lemma: a live ranger yields exactly pos..end and then nil, within span+1 calls -/
theorem drain_live (k : Nat) : ∀ (fuel : Nat) (r : Ranger), r.done = false → inRange r.pos → inRange r.end_ →
    span r.pos r.end_ = k → k + 1 ≤ fuel → drain Helpers.next fuel r = interval r.pos k := by
  induction k with
  | zero =>
    intro fuel r hd _ _ hk hf
    have hgt : r.pos > r.end_ := by unfold span at hk; omega
    cases fuel with
    | zero => omega
    | succ n => simp [drain, Helpers.next, hd, hgt, interval]
  | succ k ih =>
    intro fuel r hd hp he hk hf
    have hle : ¬ r.pos > r.end_ := by unfold span at hk; omega
    cases fuel with
    | zero => omega
    | succ n =>
      by_cases heq : r.pos = r.end_
      · have hk0 : k = 0 := by unfold span at hk; omega
        subst hk0
        simp [drain, Helpers.next, hd, heq, interval]
        exact drain_done n _ rfl
      · have hlt : r.pos < r.end_ := by omega
        have hw : wrap64 (r.pos + 1) = r.pos + 1 := by
          apply wrap64_id; unfold inRange at *; omega
        have hne : (r.pos == r.end_) = false := by simp [heq]
        simp only [drain, Helpers.next, hd, hne, Bool.false_or, decide_eq_true_eq, hle, if_false, Bool.false_eq_true, interval]
        rw [hw]
        have := ih n { pos := r.pos + 1, end_ := r.end_, done := false } rfl
          (by unfold inRange at *; simp only; omega) he (by unfold span at *; simp only; omega) (by omega)
        simp only at this
        exact congrArg _ this

/-- range(a,b) yields a..b inclusive (nothing when b < a) and then nil — for ALL ints, extremes included -/
theorem C19_range (a b : Int) (ha : inRange a) (hb : inRange b) (fuel : Nat) (hf : span a b + 1 ≤ fuel) :
    drain Helpers.next fuel (Helpers.Range a b) = interval a (span a b) :=
  drain_live (span a b) fuel (Helpers.Range a b) rfl ha hb rfl hf

/-- between(a,b) yields a+1..b-1 -/
theorem C19_between (a b : Int) (ha : inRange a) (hb : inRange b) (fuel : Nat) (hf : span (a + 1) (b - 1) + 1 ≤ fuel) :
    drain Helpers.next fuel (Helpers.Between a b) = interval (a + 1) (span (a + 1) (b - 1)) := by
  unfold Helpers.Between
  by_cases hx : a = maxInt ∨ b = minInt
  · have hs : span (a + 1) (b - 1) = 0 := by
      unfold span inRange minInt maxInt at *; omega
    have : ((a == maxInt) || (b == minInt)) = true := by
      rcases hx with h | h <;> simp [h]
    simp only [this, if_true, hs, interval]
    exact drain_done fuel _ rfl
  · have hne : ((a == maxInt) || (b == minInt)) = false := by
      simp only [Bool.or_eq_false_iff, beq_eq_false_iff_ne]; exact ⟨fun h => hx (Or.inl h), fun h => hx (Or.inr h)⟩
    have ha' : inRange (a + 1) := by unfold inRange minInt maxInt at *; omega
    have hb' : inRange (b - 1) := by unfold inRange minInt maxInt at *; omega
    simp only [hne, Bool.false_eq_true, if_false]
    rw [wrap64_id _ ha', wrap64_id _ hb']
    exact drain_live _ fuel _ rfl ha' hb' rfl hf

/-- until(n) yields 0..n-1 -/
theorem C19_until (n : Int) (hn : inRange n) (fuel : Nat) (hf : span 0 (n - 1) + 1 ≤ fuel) :
    drain Helpers.next fuel (Helpers.Until n) = interval 0 (span 0 (n - 1)) := by
  unfold Helpers.Until
  by_cases hx : n = minInt
  · have hs : span 0 (n - 1) = 0 := by unfold span minInt at *; omega
    simp only [hx, beq_self_eq_true, if_true]
    rw [hx] at hs
    simp only [hs, interval]
    exact drain_done fuel _ rfl
  · have hne : (n == minInt) = false := by simp [hx]
    have hb' : inRange (n - 1) := by unfold inRange minInt maxInt at *; omega
    simp only [hne, Bool.false_eq_true, if_false]
    rw [wrap64_id _ hb']
    have h0 : inRange (0 : Int) := by unfold inRange minInt maxInt; omega
    exact drain_live _ fuel _ rfl h0 hb' rfl hf

/-- the two shipped copies of the counter iterator are the same function -/
theorem C19_copies_agree :
    Helpers.next = Root.next ∧ Helpers.Range = Root.Range ∧ Helpers.Between = Root.Between ∧ Helpers.Until = Root.Until :=
  ⟨rfl, rfl, rfl, rfl⟩

theorem groupByLoop_flatten {α} (g : Nat) (hg : 0 < g) : ∀ (fuel : Nat) (xs : List α), xs.length ≤ fuel →
    (groupByLoop g fuel xs).flatten = xs := by
  intro fuel
  induction fuel with
  | zero => intro xs h; cases xs with
    | nil => rfl
    | cons _ _ => simp at h
  | succ n ih =>
    intro xs h
    cases xs with
    | nil => rfl
    | cons x t =>
      simp only [groupByLoop, List.flatten_cons]
      rw [ih]
      · exact List.take_append_drop g (x :: t)
      · simp only [List.length_drop, List.length_cons] at *; omega

theorem groupSize_cover (len n : Nat) (hn : 0 < n) : len ≤ groupSize len n * n := by
  unfold groupSize
  have := Nat.div_add_mod len n
  have hlt := Nat.mod_lt len hn
  by_cases hm : len % n = 0
  · simp [hm]; rw [Nat.mul_comm]; omega
  · simp [hm]; rw [Nat.add_mul, Nat.mul_comm]; omega

theorem groupBy_unfold {α} (n : Nat) (xs : List α) (hl : xs.length ≠ n) (hz : groupSize xs.length n ≠ 0) :
    groupBy n xs = groupByLoop (groupSize xs.length n) xs.length xs := by
  unfold groupBy
  have h1 : (xs.length == n) = false := by simp [hl]
  have h2 : (groupSize xs.length n == 0) = false := by simp [hz]
  simp only [h1, h2, Bool.false_eq_true, if_false]

theorem groupBy_empty {α} (n : Nat) (xs : List α) (hl : xs.length ≠ n) (hz : groupSize xs.length n = 0) :
    groupBy n xs = [] := by
  unfold groupBy
  have h1 : (xs.length == n) = false := by simp [hl]
  simp [h1, hz]

theorem groupBy_whole {α} (n : Nat) (xs : List α) (hl : xs.length = n) : groupBy n xs = [xs] := by
  unfold groupBy; simp [hl]

/-- the concatenation of the groups is the input -/
theorem C19_groupBy_concat {α} (n : Nat) (xs : List α) (hn : 0 < n) : (groupBy n xs).flatten = xs := by
  by_cases hl : xs.length = n
  · simp [groupBy_whole n xs hl]
  · by_cases hz : groupSize xs.length n = 0
    · have hc := groupSize_cover xs.length n hn
      rw [hz, Nat.zero_mul] at hc
      rw [groupBy_empty n xs hl hz, List.length_eq_zero_iff.mp (Nat.le_zero.mp hc)]; rfl
    · rw [groupBy_unfold n xs hl hz]
      exact groupByLoop_flatten _ (by omega) _ _ (Nat.le_refl _)

theorem groupByLoop_nonempty {α} (g : Nat) (hg : 0 < g) : ∀ (fuel : Nat) (xs : List α),
    ∀ grp ∈ groupByLoop g fuel xs, grp ≠ [] := by
  intro fuel
  induction fuel with
  | zero => intro xs grp h; simp [groupByLoop] at h
  | succ n ih =>
    intro xs grp h
    cases xs with
    | nil => simp [groupByLoop] at h
    | cons x t =>
      simp only [groupByLoop, List.mem_cons] at h
      rcases h with h | h
      · subst h
        cases g with
        | zero => omega
        | succ g => simp
      · exact ih _ _ h

/-- no group is empty -/
theorem C19_groupBy_nonempty {α} (n : Nat) (xs : List α) (_hn : 0 < n) (hx : xs ≠ []) : ∀ grp ∈ groupBy n xs, grp ≠ [] := by
  intro grp h
  by_cases hl : xs.length = n
  · rw [groupBy_whole n xs hl] at h; simp at h; subst h; exact hx
  · by_cases hz : groupSize xs.length n = 0
    · rw [groupBy_empty n xs hl hz] at h; simp at h
    · rw [groupBy_unfold n xs hl hz] at h
      exact groupByLoop_nonempty _ (by omega) _ _ grp h

theorem groupByLoop_length {α} (g : Nat) (hg : 0 < g) : ∀ (fuel : Nat) (xs : List α), xs.length ≤ fuel →
    (groupByLoop g fuel xs).length = (xs.length + g - 1) / g := by
  intro fuel
  induction fuel with
  | zero =>
    intro xs h
    obtain rfl := List.length_eq_zero_iff.mp (Nat.le_zero.mp h)
    exact (Nat.div_eq_of_lt (by simp only [List.length_nil]; omega)).symm
  | succ n ih =>
    intro xs h
    cases xs with
    | nil => exact (Nat.div_eq_of_lt (by simp only [List.length_nil]; omega)).symm
    | cons x t =>
      simp only [groupByLoop, List.length_cons]
      rw [ih _ (by simp only [List.length_drop, List.length_cons] at *; omega)]
      simp only [List.length_drop, List.length_cons]
      by_cases hle : t.length + 1 ≤ g
      · rw [Nat.div_eq_of_lt (by omega), Nat.div_eq_of_lt_le (k := 1) (by omega) (by omega)]
      · rw [show t.length + 1 + g - 1 = (t.length + 1 - g + g - 1) + g by omega, Nat.add_div_right _ hg]

/-- at most `n` groups -/
theorem C19_groupBy_count {α} (n : Nat) (xs : List α) (hn : 0 < n) : (groupBy n xs).length ≤ n := by
  by_cases hl : xs.length = n
  · rw [groupBy_whole n xs hl]; simp; omega
  · by_cases hz : groupSize xs.length n = 0
    · rw [groupBy_empty n xs hl hz]; simp
    · rw [groupBy_unfold n xs hl hz, groupByLoop_length _ (by omega) _ _ (Nat.le_refl _)]
      have hcover := groupSize_cover xs.length n hn
      generalize groupSize xs.length n = g at *
      have hgpos : 0 < g := by omega
      apply Nat.lt_succ_iff.mp
      rw [Nat.div_lt_iff_lt_mul hgpos, Nat.succ_mul, Nat.mul_comm n g]
      omega

theorem groupByLoop_sizes {α} (g : Nat) (hg : 0 < g) : ∀ (fuel : Nat) (xs : List α), xs.length ≤ fuel →
    ∀ grp ∈ (groupByLoop g fuel xs).dropLast, grp.length = g := by
  intro fuel
  induction fuel with
  | zero => intro xs _ grp h; simp [groupByLoop] at h
  | succ n ih =>
    intro xs h grp hm
    cases xs with
    | nil => simp [groupByLoop] at hm
    | cons x t =>
      simp only [groupByLoop] at hm
      cases hrest : groupByLoop g n (List.drop g (x :: t)) with
      | nil => rw [hrest] at hm; simp at hm
      | cons y ys =>
        rw [hrest] at hm
        simp only [List.dropLast_cons_cons, List.mem_cons] at hm
        rcases hm with hm | hm
        · subst hm
          -- the rest is non-empty, so the first group is full
          have hne : List.drop g (x :: t) ≠ [] := by
            intro hd; rw [hd] at hrest
            cases n <;> simp [groupByLoop] at hrest
          have : g < (x :: t).length :=
            Nat.lt_of_not_le (fun hc => hne (List.drop_eq_nil_of_le hc))
          simp only [List.length_take]; omega
        · have := ih (List.drop g (x :: t)) (by simp only [List.length_drop, List.length_cons] at *; omega) grp
          rw [hrest] at this
          exact this hm

/-- all groups but the last have the same size -/
theorem C19_groupBy_equal_sizes {α} (n : Nat) (xs : List α) (hn : 0 < n) :
    ∃ g, ∀ grp ∈ (groupBy n xs).dropLast, grp.length = g := by
  by_cases hl : xs.length = n
  · exact ⟨0, by rw [groupBy_whole n xs hl]; simp⟩
  · by_cases hz : groupSize xs.length n = 0
    · exact ⟨0, by rw [groupBy_empty n xs hl hz]; simp⟩
    · rw [groupBy_unfold n xs hl hz]
      exact ⟨_, groupByLoop_sizes _ (by omega) _ _ (Nat.le_refl _)⟩

-- non-vacuity: the hypotheses are met by non-trivial inputs, and the extremes are covered
example : inRange minInt ∧ inRange (minInt + 1) := by unfold inRange minInt maxInt; omega
example : drain Helpers.next 5 (Helpers.Range minInt (minInt + 1)) = [minInt, minInt + 1] := by decide
example : drain Helpers.next 5 (Helpers.Between 3 minInt) = [] := by decide
example : drain Helpers.next 5 (Helpers.Until minInt) = [] := by decide
example : groupBy 2 [1, 2, 3, 4, 5] = [[1, 2, 3], [4, 5]] := by decide

end Plush
